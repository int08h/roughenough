import Rough.Props.C01
import Rough.Lemmas.Grease
import Rough.Lemmas.StatsPipeline
/-
  Theorems that widen C01, C02, C05, C09 and C17 beyond their per-property files (checklib/props.py lists each under
  its property): the whole client run, re-encoding without a length bound, a run of passes cut anywhere, the two fault
  injections of the server seen by a verifier, the statistics pipeline from recorder to reporter.
-/
namespace Rough.Props.Extra
open Rough Rough.ServerSpec Rough.Spec Rough.Stats

/-- C01, whole run (`-n k`): the times printed correspond exactly to a prefix of the responses, each
    of which is authentic for ITS request under the pinned key, and the process exits 0 only if
    every response was authentic. -/
theorem C01_run_sound (S : SigScheme) (H : Bytes → Bytes) (ver : Version) (pk : Bytes)
    (rs : List (Bytes × Bytes × Bytes)) (hlen : ∀ r ∈ rs, r.2.2.length ≤ 4096) :
    let (outs, ok) := Client.runAll S H ver (some pk) rs
    outs.length ≤ rs.length ∧
    (∀ j (hj : j < outs.length), ∃ (h : j < rs.length),
        outs[j].verified = true ∧
        RT.authentic S H (protoOfVer ver) pk rs[j].2.1 rs[j].1 rs[j].2.2 = some (outs[j].midpoint, outs[j].radius)) ∧
    (ok = true → outs.length = rs.length) := by
  induction rs with
  | nil => exact ⟨Nat.le_refl _, fun j hj => absurd hj (Nat.not_lt_zero j), fun _ => rfl⟩
  | cons r rest ih =>
    obtain ⟨nonce, request, dg⟩ := r
    have ih := ih fun r hr => hlen r (List.mem_cons_of_mem _ hr)
    unfold Client.runAll
    cases hh : Client.handleResponse S H ver (some pk) nonce request dg with
    | ok o =>
      obtain ⟨hv, ha⟩ := Props.C01.C01_sound S H ver pk nonce request dg (hlen _ List.mem_cons_self) o hh
      generalize Client.runAll S H ver (some pk) rest = p at ih ⊢
      obtain ⟨os, ok⟩ := p
      obtain ⟨h1, h2, h3⟩ := ih
      refine ⟨Nat.succ_le_succ h1, fun j hj => ?_, fun hok => congrArg Nat.succ (h3 hok)⟩
      cases j with
      | zero => exact ⟨Nat.zero_lt_succ _, hv, ha⟩
      | succ j =>
        obtain ⟨hj', hx⟩ := h2 j (Nat.lt_of_succ_lt_succ hj)
        exact ⟨Nat.succ_lt_succ hj', hx⟩
    | err | panic s => exact ⟨Nat.zero_le _, fun j hj => absurd hj (Nat.not_lt_zero j), nofun⟩

/-- C05: canonical re-encoding needs no length bound at all (strengthens C05_encode_decode). -/
theorem C05_encode_decode_unbounded (b : Bytes) (m : Msg) (h : fromBytes b = .ok m) (hne : m.fields ≠ []) :
    encode m = b :=
  Lemmas.encode_decode b m h hne

/-- C09 / C19: where a history of passes is cut into `process_events` calls is irrelevant — running
    two pass lists one after the other is running their concatenation (so bounding the work per call
    changes nothing that is sent or recorded). -/
theorem C09_run_append (E : Env) (debug : Bool) (s : Server) (ps qs : List Server.Pass) :
    Server.run E debug s (ps ++ qs) =
      (Server.run E debug s ps).bind fun (s', sent, ev) =>
        (Server.run E debug s' qs).bind fun (s'', sent', ev') => .ok (s'', sent ++ sent', ev ++ ev') := by
  induction ps generalizing s with
  | nil => exact (Res.bind_ok_right _).symm
  | cons p ps ih => simp only [List.cons_append, Server.run, ih, Res.bind_assoc, Res.bind_ok, List.append_assoc]

/-- C02, fault injection, tag reordering: a reordered response is byte-identical to the honest one
    (identity permutation) or is rejected by the reference decoder (hence by every verifier) — there
    is no third state. `r` is any message whose tags are strictly increasing (as every response is). -/
theorem C02_grease_reorder (r : Msg) (hs : r.Sorted) (perm : List Nat) (hp : perm.Perm (List.range r.fields.length))
    (r' : Msg) (h : applyGrease (.reorder perm) r = .ok r') :
    r' = r ∨ Spec.decode (encode r') = none := by
  have hin : ∀ i ∈ perm, i < r.fields.length := fun i hi => List.mem_range.mp (hp.mem_iff.mp hi)
  have hr' : r' = ⟨perm.map (fun i => r.fields.getD i (Tag.SIG, []))⟩ :=
    (Res.ok.inj ((Lemmas.Grease.applyGrease_reorder r perm hin _).symm.trans h)).symm
  have hlen' : r'.fields.length = r.fields.length := by
    rw [hr', List.length_map, hp.length_eq, List.length_range]
  have h18 : r.fields.length ≤ 18 := Lemmas.tags_length r ▸ Lemmas.sorted_length_le hs
  -- if the tags of r' are sorted, nothing has moved
  have key : r'.Sorted → r' = r := fun hs' => by
    rw [hr'] at hs' ⊢
    exact congrArg Msg.mk (Lemmas.Grease.map_getD_perm_sorted (lt := fun a b => a.1.idx < b.1.idx)
      (fun _ => Nat.lt_irrefl _) (fun _ _ => Nat.lt_asymm) r.fields _ (List.pairwise_map.mp hs) hp
      (List.pairwise_map.mp hs'))
  cases hd : Spec.decode (encode r') with
  | none => exact Or.inr rfl
  | some m' =>
    left
    rcases Lemmas.decode_decodes hd with ⟨_, _, h0, _⟩ | hc
    · -- no fields: nothing is out of order
      rw [Lemmas.encode_eq, Lemmas.rd32_le32_append] at h0
      apply key
      unfold Msg.Sorted Msg.tags
      rw [List.length_eq_zero_iff.mp (by omega : r'.fields.length = 0)]
      exact List.Pairwise.nil
    · obtain ⟨_, he, hsm, _⟩ := hc
      have hm18 : m'.fields.length ≤ 18 := Lemmas.tags_length m' ▸ Lemmas.sorted_length_le hsm
      have ht := Lemmas.Grease.encode_tags_inj r' m' (by omega) (by omega) he
      apply key
      unfold Msg.Sorted
      rw [ht]; exact hsm

/-- C02, fault injection, signature corruption: the corrupted response carries the drawn bytes as
    SIG and no NONC; therefore a draft-13 verifier rejects it outright (NONC is mandatory), and a
    classic verifier accepts it only if the drawn bytes happen to be a valid signature. -/
theorem C02_grease_corrupt_sig (resp : Msg) (sig nonce path srep cert indx rho : Bytes)
    (hr : resp = ⟨[(Tag.SIG, sig), (Tag.NONC, nonce), (Tag.PATH, path), (Tag.SREP, srep), (Tag.CERT, cert), (Tag.INDX, indx)]⟩) :
    applyGrease (.corruptSig rho) resp =
      .ok ⟨[(Tag.SIG, rho), (Tag.PATH, path), (Tag.SREP, srep), (Tag.CERT, cert), (Tag.INDX, indx)]⟩ :=
  hr ▸ Lemmas.Grease.applyGrease_corruptSig _ rho sig path srep cert indx rfl rfl rfl rfl rfl

/-- … and such a message (no NONC) is never accepted by the draft-13 verifier: it insists on the echoed nonce
    (`Resp.Strict.echo`), which for draft-13 must be present. -/
theorem C02_no_nonc_rejected (S : SigScheme) (H : Bytes → Bytes) (ltpk request nonce body : Bytes) (m : Msg)
    (hb : body.length < 2 ^ 32) (hd : Spec.decode body = some m) (hn : m.get Tag.NONC = none) :
    RT.accepts S H .draft13 ltpk request nonce (RT.magic ++ le32 body.length ++ body) = false := by
  unfold RT.accepts
  cases hv : RT.verifyResponse S H .draft13 ltpk request nonce (RT.magic ++ le32 body.length ++ body) with
  | error e => rfl
  | ok res =>
    obtain ⟨body', hb', f, hf, -, s, -⟩ := Lemmas.RT.verifyResponse_ok hv
    cases (Lemmas.SpecRT.unframe_frame body hb).symm.trans hb'
    cases hd.symm.trans (Lemmas.RT.Resp.parse_eq_some.mp hf).1
    have he := s.echo
    rw [hn] at he
    exact absurd rfl he

/-- C17, pipeline: whatever the snapshot points, as long as no recorder overflowed in any interval,
    what the reporter holds after merging every published snapshot plus what is still in the
    recorder accounts for every event of every kind and address exactly once. -/
theorem C17_pipeline (limit : Nat) (intervals : List (List Event))
    (hno : ∀ iv ∈ intervals, (PerClient.run (PerClient.init limit) iv).overflows = 0) (a : Addr) (k : Kind) :
    let (q, fin) := publish limit intervals
    (((reporterReceive [] q).find? (fun p => p.1 = a)).map (·.2.get k)).getD 0 + fin.get a k
      = count intervals.flatten a k :=
  Lemmas.Extra.pipeline limit intervals hno a k

end Rough.Props.Extra
