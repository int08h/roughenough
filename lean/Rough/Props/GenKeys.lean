import Rough.Bridge.Keys
import Rough.Props.C11
/-
  C11 stated directly about `OnlineKey::classic_midp` / `rfc_midp` / `make_srep` as REGENERATED FROM /repo's RUST SOURCE
  on every run (Rough/Generated/Src/Online.lean): a bridge theorem of Rough/Bridge/Keys.lean composed with the
  model-level theorems of Props/C11.lean.  Nothing new is proved about the model here.
-/
namespace Rough.Props.GenCore
open Rough Rough.Bridge

/-! A clock reading `t : Rs.Time` is seconds and nanoseconds since the Unix epoch: only readings not before the epoch
    are representable. -/

/-- C11 (classic) for the translated code: for every clock reading whose microsecond count fits a u64 (beyond year
    584 000), the generated `classic_midp` returns ⌊t / 1 µs⌋ — no overflow panic in that range. -/
theorem GEN_midpoint_classic (S : SigScheme) (g : Gen.OnlineKey) (t : Rs.Time) (hn : t.nanos < 1000000000)
    (hs : t.secs * 1000000 + 999999 < 2 ^ 64) :
    Gen.OnlineKey.classic_midp S g t = .ok (Props.C11.ns t.secs t.nanos / 1000) :=
  Res.Sim.eq_ok (Props.C11.C11_classic t.secs t.nanos hn hs ▸ classic_midp_sim S g t)

/-- C11 (IETF) for the translated code: for every clock reading, the generated `rfc_midp` returns ⌊t / 1 s⌋. -/
theorem GEN_midpoint_ietf (S : SigScheme) (g : Gen.OnlineKey) (t : Rs.Time) (hn : t.nanos < 1000000000) :
    Gen.OnlineKey.rfc_midp S g t = .ok (Props.C11.ns t.secs t.nanos / 1000000000) :=
  (rfc_midp_eq S g t).trans (Props.C11.C11_ietf t.secs t.nanos hn)

/-- C11 (what is signed) for the translated code: for a key object as `OnlineKey::new` builds it, either protocol
    version, every clock reading (for the classic protocol: one whose microsecond count fits a u64) and every root of
    4-byte aligned length below 2^16, the generated `make_srep` returns normally a message whose SREP field decodes
    (reference decoder) to a message carrying MIDP = ⌊t / unit⌋ (unit = 1 µs classic, 1 s IETF) as a little-endian
    u64, RADI = five seconds in that unit, ROOT = the given root and, for IETF, VER = draft-13 and VERS = the
    supported list; whose SIG field is the online key's signature over context ‖ SREP; and the signer's buffer is
    empty afterwards. -/
theorem GEN_srep_midpoint (S : SigScheme) (g : Gen.OnlineKey) (hv : g.vers_wire_bytes = Version.supportedWire)
    (v : Version) (t : Rs.Time) (root : Bytes) (hn : t.nanos < 1000000000)
    (hs : v = .google → t.secs * 1000000 + 999999 < 2 ^ 64)
    (hroot : root.length % 4 = 0) (hsz : root.length < 2 ^ 16) :
    ∃ res g' srepB srep, Gen.OnlineKey.make_srep S g v t root = .ok (res, g') ∧
      Gen.RtMessage.get_field res Tag.SREP = .ok (some srepB) ∧
      Gen.RtMessage.get_field res Tag.SIG =
        .ok (some (S.sign g.signer.seed (g.signer.buf ++ v.srepPrefix ++ srepB))) ∧
      g' = { g with signer := ⟨g.signer.seed, []⟩ } ∧
      Spec.decode srepB = some srep ∧
      srep.get Tag.MIDP = some (le64 (Props.C11.ns t.secs t.nanos / Props.C11.unitNs v)) ∧
      srep.get Tag.RADI = some (le32 (radiOf v)) ∧ srep.get Tag.ROOT = some root ∧
      (v = .ietf → srep.get Tag.VER = some Version.ietf.wire ∧ srep.get Tag.VERS = some Version.supportedWire) := by
  have hm : midpOf v t.secs t.nanos = .ok (Props.C11.ns t.secs t.nanos / Props.C11.unitNs v) := by
    cases v with
    | google => exact Props.C11.C11_classic t.secs t.nanos hn (hs rfl)
    | ietf => exact Props.C11.C11_ietf t.secs t.nanos hn
  obtain ⟨res, onl', srepB, hmk, h1, h2, h3, srep, h4, h5, h6, h7, h8⟩ :=
    Props.C11.C11_fields S g.signer v t.secs t.nanos root _ hroot hsz hm
  refine ⟨toGen res, { g with signer := onl' }, srepB, srep, (make_srep_sim S g hv v t root).eq_ok_of_map hmk,
    ?_, ?_, ?_, h4, h5, h6, h7, h8⟩
  · rw [get_field_eq, h1]
  · rw [get_field_eq, h2]
  · rw [h3]

end Rough.Props.GenCore
