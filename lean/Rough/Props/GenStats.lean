import Rough.Bridge.Stats
import Rough.Props.C17
/-
  C17 stated directly about the Lean code REGENERATED FROM /repo's RUST SOURCE on every run (`Gen.PerClientStats`,
  Rough/Generated/Src/StatsPer.lean): the bridge theorems of Bridge/Stats.lean (every `add_*` = the model's `record`,
  the getters = the model's totals) composed with the conservation and bound theorems of Props/C17.lean, so it
  re-checks on every run against what the code says now.  Nothing new is proved about the model here.
-/
namespace Rough.Props.GenCore
open Rough Rough.Bridge

/-- record a history of events on one generated per-client recorder, each through the trait method the server calls
    for an event of its kind (`genRecordPer`, Bridge/Stats.lean) -/
def genRunPer (g : Gen.PerClientStats) (h : List Stats.Event) : Res Gen.PerClientStats :=
  h.foldl (fun r e => r.bind fun g => genRecordPer g e) (.ok g)

theorem genRunPer_eq (h : List Stats.Event) : ∀ s : Stats.PerClient, UniqKeys s →
    genRunPer (toGenPer s) h = .ok (toGenPer (Stats.PerClient.run s h)) :=
  Res.foldl_bind_ok toGenPer UniqKeys (fun s e hu => ⟨per_client_record_eq s e hu, uniq_record s e hu⟩) h

/-- C17 (conservation, boundedness) for the translated code: for every limit and every history of events recorded on
    a generated `PerClientStats` that starts empty, every `add_*` call returns normally, and the resulting object is
    the image (`toGenPer`: same map entries, same overflow count, same limit) of a recorder state `s` in which no
    counter exceeds the number of events of exactly its kind for exactly its address, the counters plus the overflow
    count add up to the number of events (each event is reflected exactly once), at most `limit` addresses are
    tracked and none twice; the generated getters `total_unique_clients` and `num_overflows` report that number of
    addresses and that overflow count. -/
theorem GEN_stats_conservation (limit : Nat) (h : List Stats.Event) :
    ∃ s : Stats.PerClient, genRunPer ⟨[], 0, limit⟩ h = .ok (toGenPer s) ∧
      (∀ a k, s.get a k ≤ Stats.count h a k) ∧
      Props.C17.PerClient.grandTotal s + s.overflows = h.length ∧
      s.clients.length ≤ limit ∧ (s.clients.map (·.1)).Nodup ∧
      Gen.PerClientStats.total_unique_clients (toGenPer s) = .ok s.clients.length ∧
      Gen.PerClientStats.num_overflows_fn (toGenPer s) = .ok s.overflows := by
  obtain ⟨h1, h2⟩ := Props.C17.C17_conservation limit h
  obtain ⟨h3, h4⟩ := Props.C17.C17_bounded limit h
  obtain ⟨_, _, _, _, _, _, h5, h6⟩ := per_client_totals_eq (Stats.PerClient.run (Stats.PerClient.init limit) h)
  exact ⟨Stats.PerClient.run (Stats.PerClient.init limit) h,
    genRunPer_eq h (Stats.PerClient.init limit) (uniq_init limit), h1, h2, h3, h4, h5, h6⟩

end Rough.Props.GenCore
