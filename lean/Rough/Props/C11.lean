import Rough.Lemmas.Keys
/-
  C11 — the signed midpoint is the server clock in the protocol's unit with a 5 s radius.
  Clock readings are (secs, nanos) since the Unix epoch, nanos < 10^9 (`SystemTime` invariant).
-/
namespace Rough.Props.C11
open Rough

/-- length of the protocol's time unit in nanoseconds -/
def unitNs : Version → Nat
  | .google => 1000
  | .ietf => 1000000000

/-- clock reading in nanoseconds -/
def ns (secs nanos : Nat) : Nat := secs * 1000000000 + nanos

/-- classic: midpoint = ⌊t / 1µs⌋ for every clock value whose microsecond count fits u64
    (beyond year 584 000); no panic in that range. -/
theorem C11_classic (secs nanos : Nat) (hn : nanos < 1000000000) (hs : secs * 1000000 + 999999 < 2 ^ 64) :
    midpOf .google secs nanos = .ok (ns secs nanos / 1000) :=
  Lemmas.Keys.midpOf_eq_ok.mpr ⟨by omega, by unfold ns; omega⟩

/-- IETF: midpoint = ⌊t / 1s⌋, for every clock value -/
theorem C11_ietf (secs nanos : Nat) (hn : nanos < 1000000000) :
    midpOf .ietf secs nanos = .ok (ns secs nanos / 1000000000) :=
  Lemmas.Keys.midpOf_eq_ok.mpr (by show _ = secs; unfold ns; omega)

/-- radius is five seconds in the protocol's unit -/
theorem C11_radius (v : Version) : radiOf v * unitNs v = 5000000000 := by
  cases v <;> decide

/-- the true signing time lies in [midp·unit, (midp+1)·unit) ⊂ [midp − radi, midp + radi]·unit -/
theorem C11_bracket (v : Version) (secs nanos m : Nat) (hn : nanos < 1000000000)
    (h : midpOf v secs nanos = .ok m) :
    m * unitNs v ≤ ns secs nanos ∧ ns secs nanos < (m + 1) * unitNs v ∧
    (m + 1) * unitNs v ≤ (m + radiOf v) * unitNs v :=
  Lemmas.Keys.bracket v secs nanos m hn h

/-- what `make_srep` signs: SREP decodes (reference decoder) to a message carrying exactly
    MIDP = le64 midpoint, RADI = le32 radius, ROOT = the given root, and for IETF VER = draft-13
    and VERS = the supported list; SIG is the online key's signature over context ‖ SREP. -/
theorem C11_fields (S : SigScheme) (onl : Signer) (v : Version) (secs nanos : Nat) (root : Bytes) (m : Nat)
    (hroot : root.length % 4 = 0) (hsz : root.length < 2 ^ 16)
    (hm : midpOf v secs nanos = .ok m) :
    ∃ res onl' srepB, makeSrep S onl v secs nanos root = .ok (res, onl') ∧
      res.get Tag.SREP = some srepB ∧
      res.get Tag.SIG = some (S.sign onl.seed (onl.buf ++ v.srepPrefix ++ srepB)) ∧
      onl' = ⟨onl.seed, []⟩ ∧
      ∃ srep, Spec.decode srepB = some srep ∧
        srep.get Tag.MIDP = some (le64 m) ∧ srep.get Tag.RADI = some (le32 (radiOf v)) ∧
        srep.get Tag.ROOT = some root ∧
        (v = .ietf → srep.get Tag.VER = some Version.ietf.wire ∧ srep.get Tag.VERS = some Version.supportedWire) := by
  refine ⟨_, _, _, Lemmas.Keys.makeSrep_eq S onl v secs nanos root m hm, rfl, rfl, rfl, _,
    Lemmas.Shape.srepM_decode _ _ _ _ (by simp) (by simp) hroot ?_, ?_⟩
  · have := Lemmas.Shape.srepHdr_le (ServerSpec.protoOfVer v)
    rw [Lemmas.le32_length, Lemmas.Keys.le64_length]; omega
  · cases v
    · exact ⟨rfl, rfl, rfl, nofun⟩
    · exact ⟨rfl, rfl, rfl, fun _ => ⟨rfl, rfl⟩⟩

/-- non-vacuity: 2200-01-01T00:00:00.999999999 satisfies the hypotheses of C11_classic -/
example : (999999999 : Nat) < 1000000000 ∧ 7258118400 * 1000000 + 999999 < 2 ^ 64 := by decide

end Rough.Props.C11
