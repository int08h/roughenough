import Rough.Bridge.SendResponses
import Rough.Props.C02
import Rough.Props.C09
/-
  C10 and C09 / C02 / C08 stated directly about `LongTermKey::new` + `make_cert` and about one batch of
  `Responder::send_responses` as REGENERATED FROM /repo's RUST SOURCE on every run: a bridge theorem of
  Rough/Bridge/Keys.lean, Rough/Bridge/SendResponses.lean composed with the model-level lemmas about the certificate
  (`Lemmas.Keys.cert_ok`) and about a batch under any drawable fault injection (`Lemmas.ServerSpec.ss_send_gen`).
  Nothing new is proved about the model here.
-/
namespace Rough.Props.GenCore
open Rough Rough.Bridge Rough.Stats Rough.ServerSpec Rough.Spec
open Rough.Lemmas.ServerSpec (ss_kindOf)

/-- C10 (certificate) for the translated code, under the weakest length assumptions the model lemma
    (`Lemmas.Keys.cert_ok`, the body of `C10_cert_valid` for one responder) needs — the seed is 32 bytes, the hash of
    `0xff ‖ public key` is at least 32 bytes, the online public key and the long-term key's signatures are 4-byte
    aligned and below 1 GiB (no assumption on the online seed itself): for either protocol version and any online-key
    object, the generated `LongTermKey::new seed` returns a key object `k` whose `public_key()` is the public key of the
    seed and whose `srv_value()` is `H(0xff ‖ pk)[0..32]`; the generated `k.make_cert(version, online_key)` returns
    normally a message and THE SAME key object `k` (the signer's buffer is empty again: nothing is carried over into
    the next certificate); the message encodes (generated encoder) to bytes that the reference decoder reads as a CERT
    with fields SIG and DELE, where SIG verifies under the long-term public key `S.pk seed` over
    `delegation context of the version ‖ DELE bytes`, and DELE decodes to a message carrying PUBK = the online public
    key, MINT = 0 and MAXT = 2^64 − 1. -/
theorem GEN_cert_valid_aligned (S : SigScheme) (hS : S.Correct) (H : Bytes → Bytes) (seed : Bytes) (v : Version)
    (g : Gen.OnlineKey) (hseed : seed.length = 32)
    (hH : 32 ≤ (H ((0xff : UInt8) :: S.pk seed)).length)
    (hpk : (S.pk g.signer.seed).length % 4 = 0 ∧ (S.pk g.signer.seed).length < 2 ^ 30)
    (hsig : ∀ m, (S.sign seed m).length % 4 = 0 ∧ (S.sign seed m).length < 2 ^ 30) :
    ∃ k certG certB cert sig dele deleM,
      Gen.LongTermKey.new S H seed = .ok k ∧
      Gen.LongTermKey.public_key S H k = .ok (S.pk seed) ∧
      Gen.LongTermKey.srv_value_fn S H k = .ok ((H ((0xff : UInt8) :: S.pk seed)).take 32) ∧
      Gen.LongTermKey.make_cert S H k v g = .ok (certG, k) ∧
      Gen.RtMessage.encode certG = .ok certB ∧
      Spec.decode certB = some cert ∧ cert.get Tag.SIG = some sig ∧ cert.get Tag.DELE = some dele ∧
      S.verify (S.pk seed) (v.delePrefix ++ dele) sig = true ∧
      Spec.decode dele = some deleM ∧ deleM.get Tag.PUBK = some (S.pk g.signer.seed) ∧
      deleM.get Tag.MINT = some (le64 0) ∧ deleM.get Tag.MAXT = some (le64 (2 ^ 64 - 1)) := by
  have hnew : Gen.LongTermKey.new S H seed =
      .ok (toGenLtk ⟨⟨seed, []⟩, (H ((0xff : UInt8) :: S.pk seed)).take 32⟩) :=
    (ltk_new_sim S H seed).eq_ok_of_map
      (Lemmas.Keys.ltkNew_eq_ok.mpr ⟨hseed, _, Lemmas.Keys.calcSrv_ok H _ hH, rfl⟩)
  have hcert := (make_cert_sim S H ⟨⟨seed, []⟩, (H ((0xff : UInt8) :: S.pk seed)).take 32⟩ v g).eq_ok_of_map
    (Lemmas.Keys.makeCert_eq S _ v g.signer.seed)
  obtain ⟨cert, sig, dele, deleM, h1, h2, h3, h4, h5, h6, h7, h8⟩ :=
    Lemmas.Keys.cert_ok S hS ⟨seed, []⟩ v g.signer.seed hseed hpk.1 hpk.2 hsig
  exact ⟨_, _, _, cert, sig, dele, deleM, hnew, ltk_public_key_eq S H _, ltk_srv_value_eq S H _, hcert,
    encode_eq _, h1, h2, h3, h4, h5, h6, h7, h8⟩

/-- C10 (certificate) for the translated code, with the SHA-512 / Ed25519 output lengths (`ServerSpec.EnvOK`, as in
    `C10_cert_valid`): for a 32-byte long-term seed, either protocol version and any online-key object, the generated
    `LongTermKey::new` followed by the generated `LongTermKey::make_cert version online_key` returns a message whose
    encoding the reference decoder reads as a CERT whose SIG verifies (`S.verify`, given completeness `S.Correct` of
    the scheme) under the long-term public key `S.pk seed` over `Version.delePrefix ‖ DELE bytes` and whose DELE
    carries the online public key, MINT = 0 and MAXT = 2^64 − 1; the key object is unchanged by `make_cert` (empty
    signer buffer: no carry-over into the next certificate), its `public_key()` is `S.pk seed` and its `srv_value()`
    is `H(0xff ‖ pk)[0..32]`. -/
theorem GEN_cert_valid (E : Env) (hS : E.S.Correct) (hE : EnvOK E) (seed : Bytes) (v : Version) (g : Gen.OnlineKey)
    (hseed : seed.length = 32) :
    ∃ k certG certB cert sig dele deleM,
      Gen.LongTermKey.new E.S E.H seed = .ok k ∧
      Gen.LongTermKey.public_key E.S E.H k = .ok (E.S.pk seed) ∧
      Gen.LongTermKey.srv_value_fn E.S E.H k = .ok ((E.H ((0xff : UInt8) :: E.S.pk seed)).take 32) ∧
      Gen.LongTermKey.make_cert E.S E.H k v g = .ok (certG, k) ∧
      Gen.RtMessage.encode certG = .ok certB ∧
      Spec.decode certB = some cert ∧ cert.get Tag.SIG = some sig ∧ cert.get Tag.DELE = some dele ∧
      E.S.verify (E.S.pk seed) (v.delePrefix ++ dele) sig = true ∧
      Spec.decode dele = some deleM ∧ deleM.get Tag.PUBK = some (E.S.pk g.signer.seed) ∧
      deleM.get Tag.MINT = some (le64 0) ∧ deleM.get Tag.MAXT = some (le64 (2 ^ 64 - 1)) :=
  GEN_cert_valid_aligned E.S hS E.H seed v g hseed (by rw [hE.hashLen]; omega) (by rw [hE.pkLen]; omega)
    (fun m => by rw [hE.sigLen]; omega)

/-! ### C09 / C02 — one batch: `Responder::send_responses` as generated

  The responder state is described as in the model lemma `Lemmas.ServerSpec.ss_send_gen` (what `Inv` + `collect`
  establish before each `send_responses` call): the responder for protocol `ver` of a server with keys `K` — online
  signer with an empty buffer, the certificate of `K` — whose queue holds (nonce, source) of the accepted requests
  `reqs` (datagram with its source, and the nonce extracted from it) in order, and whose Merkle tree is the result of
  pushing their leaves (nonce for classic, whole datagram for IETF) onto a reset tree. -/

/-- C09 (one batch) for the translated code: for a responder holding the queued requests `reqs` (at most 2^32, nonces
    of at least 4 bytes), a clock reading a `SystemTime` can produce, no fault injection (all pending decisions
    `Grease.none`), every `send_to` of this call succeeding and every log level, the generated
    `Responder::send_responses` returns normally and
      * the datagrams it appends to the socket are exactly `expectedBatch`: one per queued request, addressed to that
        request's source, in queue order, each equal to the reference responder's reply `Spec.RT.respond` for that
        position of the batch and that nonce (classic: bare message, IETF: framed), none missing, none extra;
      * the socket has counted one send per request;
      * the statistics events appended are one response event per datagram with its destination and byte count;
      * the responder afterwards is the same (key, certificate, queue) except for the Merkle tree (which still has a
        level) and the fault-injection queue, from which one decision per request was drawn. -/
theorem GEN_send_responses_replies (E : Env) (hE : EnvOK E) (K : Keys) (ver : Version)
    (reqs : List (Datagram × Bytes)) (r : Responder) (t0 : Tree)
    (hver : r.ver = ver) (honl : r.onl = ⟨onlOf K ver, []⟩) (hcert : r.cert = certOf E K ver)
    (hreq : r.requests = reqs.map (fun x => (x.2, x.1.src))) (ht0 : t0.levels ≠ [])
    (htree : Merkle.pushAll (E.mcfg ver) (Merkle.reset t0) (reqs.map (leafOf ver)) = .ok r.tree)
    (hrt : r.tree.levels ≠ []) (hsz : reqs.length ≤ 2 ^ 32) (hn : ∀ x ∈ reqs, 4 ≤ x.2.length)
    (gs : List Grease) (cur : Grease) (hg : ∀ g ∈ gs, g = Grease.none)
    (sock : Gen.Sock) (hok : ∀ a k, sock.ok a (sock.n + k) = true)
    (hclk : clockOK ((sock.clock sock.n).secs, (sock.clock sock.n).nanos))
    (LOG : Nat) (ev0 : List Event) :
    ∃ t', t'.levels ≠ [] ∧
      Gen.Responder.send_responses E.S E.H LOG (toGenResponder r ⟨gs, cur⟩) sock ev0 = .ok
        (toGenResponder { r with tree := t' } ⟨gs.drop reqs.length, curAfter gs cur reqs.length⟩,
         ({ sock with
            n := sock.n + reqs.length,
            out := sock.out ++
              (expectedBatch E K ver ((sock.clock sock.n).secs, (sock.clock sock.n).nanos) reqs).map some } : Gen.Sock),
         ev0 ++ (expectedBatch E K ver ((sock.clock sock.n).secs, (sock.clock sock.n).nanos) reqs).map
                  (fun x => (⟨ss_kindOf ver, x.dst, x.bytes.length⟩ : Event))) := by
  obtain ⟨t', hspec, ht'⟩ := Lemmas.ServerSpec.ss_send_gen E hE K ver
    ((sock.clock sock.n).secs, (sock.clock sock.n).nanos) reqs r t0 (decide (LOG ≥ 4)) gs _ hver honl hcert hreq ht0
    htree hrt hsz hn hclk fun g hgm => hg g hgm ▸ trivial
  rw [← Lemmas.ServerSpec.ss_batchG, Lemmas.ServerSpec.ss_batchG_none _ _ _ _ _ _ hg] at hspec
  have hsim := send_responses_all_ok E hE.hashLen r gs cur sock LOG ev0 hok
  have hlen : r.requests.length = reqs.length := by rw [hreq, List.length_map]
  rw [hspec, hlen] at hsim
  exact ⟨t', ht', hsim.eq_ok⟩

/-- C02 / C09 (one batch) for the translated code: under the hypotheses of `GEN_send_responses_replies`, with key
    material of the right lengths (`K.OK`), a complete signature scheme (`S.Correct`) and nonces of 32 or 64 bytes
    (what the request classifier accepts), the generated `Responder::send_responses` returns normally, appends exactly
    one entry per queued request to what the socket has sent, and the entry for the i-th queued request is a datagram
    (the send was not dropped) addressed to that request's source, equal to the reference reply for position i, and
    ACCEPTED BY THE INDEPENDENT VERIFIER `Spec.RT.verifyResponse` for that request (its datagram and nonce) under the
    long-term public key `S.pk K.seed`, yielding the midpoint of the clock reading and the protocol's radius. -/
theorem GEN_send_responses_verified (E : Env) (hE : EnvOK E) (hS : E.S.Correct) (K : Keys) (hK : K.OK) (ver : Version)
    (reqs : List (Datagram × Bytes)) (r : Responder) (t0 : Tree)
    (hver : r.ver = ver) (honl : r.onl = ⟨onlOf K ver, []⟩) (hcert : r.cert = certOf E K ver)
    (hreq : r.requests = reqs.map (fun x => (x.2, x.1.src))) (ht0 : t0.levels ≠ [])
    (htree : Merkle.pushAll (E.mcfg ver) (Merkle.reset t0) (reqs.map (leafOf ver)) = .ok r.tree)
    (hrt : r.tree.levels ≠ []) (hsz : reqs.length ≤ 2 ^ 32)
    (hn : ∀ x ∈ reqs, x.2.length = 64 ∨ x.2.length = 32)
    (gs : List Grease) (cur : Grease) (hg : ∀ g ∈ gs, g = Grease.none)
    (sock : Gen.Sock) (hok : ∀ a k, sock.ok a (sock.n + k) = true)
    (hclk : clockOK ((sock.clock sock.n).secs, (sock.clock sock.n).nanos))
    (LOG : Nat) (ev0 : List Event) :
    ∃ g' sock' ev', Gen.Responder.send_responses E.S E.H LOG (toGenResponder r ⟨gs, cur⟩) sock ev0
        = .ok (g', sock', ev') ∧
      sock'.out.length = sock.out.length + reqs.length ∧
      ∀ i (h : i < reqs.length), ∃ x : Sent, sock'.out[sock.out.length + i]? = some (some x) ∧
        x.dst = reqs[i].1.src ∧
        x.bytes = RT.respond E.S E.H (protoOfVer ver) K.seed (onlOf K ver)
          (midpVal ver ((sock.clock sock.n).secs, (sock.clock sock.n).nanos)) (radiOf ver) 0 (2 ^ 64 - 1)
          (reqs.map (leafOf ver)) i reqs[i].2 ∧
        RT.verifyResponse E.S E.H (protoOfVer ver) (E.S.pk K.seed) reqs[i].1.bytes reqs[i].2 x.bytes
          = .ok (midpVal ver ((sock.clock sock.n).secs, (sock.clock sock.n).nanos), radiOf ver) := by
  obtain ⟨t', _, hgen⟩ := GEN_send_responses_replies E hE K ver reqs r t0 hver honl hcert hreq ht0 htree hrt hsz
    (fun x hx => by rcases hn x hx with h | h <;> omega) gs cur hg sock hok hclk LOG ev0
  refine ⟨_, _, _, hgen, ?_, ?_⟩
  · simp only [List.length_append, List.length_map,
      (Props.C09.C09_exactly_once E K ver ((sock.clock sock.n).secs, (sock.clock sock.n).nanos) reqs).1]
  · intro i h
    refine ⟨⟨reqs[i].1.src, RT.respond E.S E.H (protoOfVer ver) K.seed (onlOf K ver)
      (midpVal ver ((sock.clock sock.n).secs, (sock.clock sock.n).nanos)) (radiOf ver) 0 (2 ^ 64 - 1)
      (reqs.map (leafOf ver)) i reqs[i].2⟩, ?_, rfl, rfl, ?_⟩
    · simp only
      rw [List.getElem?_append_right (Nat.le_add_right _ _), Nat.add_sub_cancel_left, List.getElem?_map,
        Lemmas.ServerSpec.ss_expectedBatch_getElem? E K ver _ reqs i h]
      rfl
    · exact Lemmas.ServerAssembly.sa_reply_verifies E hE hS K hK ver _ hclk reqs hsz i h
        (hn _ (List.getElem_mem h))

/-- C08 / C17 (one batch) for the translated code: for a responder holding the queued requests `reqs` (at most 2^32,
    nonces of at least 4 bytes; any certificate bytes), a clock reading a `SystemTime` can produce, ANY fault-injection
    decisions the Rust code can draw (`GreaseOK`: none, a permutation of the six field positions, 64 random bytes), ANY
    pattern of failing `send_to` calls and every log level, the generated `Responder::send_responses` returns
    normally (no panic, no error); afterwards the responder is the same (key with an empty signer buffer,
    certificate, queue) except for the Merkle tree (which still has a level) and the fault-injection queue, from which
    one decision per request was drawn, the socket has counted one send attempt per request and has only appended to
    what it had sent, and the statistics have only been appended to. -/
theorem GEN_send_responses_returns (E : Env) (hE : EnvOK E) (K : Keys) (ver : Version)
    (reqs : List (Datagram × Bytes)) (r : Responder) (t0 : Tree)
    (hver : r.ver = ver) (honl : r.onl = ⟨onlOf K ver, []⟩)
    (hreq : r.requests = reqs.map (fun x => (x.2, x.1.src))) (ht0 : t0.levels ≠ [])
    (htree : Merkle.pushAll (E.mcfg ver) (Merkle.reset t0) (reqs.map (leafOf ver)) = .ok r.tree)
    (hrt : r.tree.levels ≠ []) (hsz : reqs.length ≤ 2 ^ 32) (hn : ∀ x ∈ reqs, 4 ≤ x.2.length)
    (gs : List Grease) (cur : Grease) (hg : ∀ g ∈ gs, GreaseOK g)
    (sock : Gen.Sock) (hclk : clockOK ((sock.clock sock.n).secs, (sock.clock sock.n).nanos))
    (LOG : Nat) (ev0 : List Event) :
    ∃ t' outs evs, t'.levels ≠ [] ∧
      Gen.Responder.send_responses E.S E.H LOG (toGenResponder r ⟨gs, cur⟩) sock ev0 = .ok
        (toGenResponder { r with tree := t' } ⟨gs.drop reqs.length, curAfter gs cur reqs.length⟩,
         ({ sock with n := sock.n + reqs.length, out := sock.out ++ outs } : Gen.Sock), ev0 ++ evs) := by
  obtain ⟨t', hsafe, ht'⟩ := Lemmas.ServerSpec.ss_send_gen E hE K ver
    ((sock.clock sock.n).secs, (sock.clock sock.n).nanos) reqs r t0 (decide (LOG ≥ 4)) gs _ hver honl rfl hreq ht0
    htree hrt hsz hn hclk hg
  have hsim := send_responses_exact E hE.hashLen r gs cur sock LOG ev0
  have hlen : r.requests.length = reqs.length := by rw [hreq, List.length_map]
  rw [Responder.sendResponsesF_refines, hsafe, hlen] at hsim
  exact ⟨t', _, _, ht', hsim.eq_ok⟩

end Rough.Props.GenCore
