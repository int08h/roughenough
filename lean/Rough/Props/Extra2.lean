import Rough.Lemmas.Config
import Rough.Lemmas.Request
import Rough.Lemmas.ClientAccept
/-
  Four theorems that widen C03, C09, C05 and C16 (checklib/props.py lists each under its property): the client accepts
  whatever the reference verifier accepts, a reply built for one position of a batch is of no use for another request,
  decoded values are 4-aligned, a seed that is not hexadecimal stops start-up.
-/
namespace Rough.Props.Extra2
open Rough Rough.ServerSpec Rough.Spec Rough.Config

/-- C03 (stronger than completeness w.r.t. the reference responder): the client accepts EVERY
    datagram that the independent spec verifier accepts for its request — whoever produced it — and
    reports exactly the midpoint and radius the verifier extracts, verified = key supplied, and the
    signed index. Hypotheses: the datagram fits the client's 4096-byte buffer; a pinned key is the key
    the verifier used, is 32 bytes, and keys under which a signature verifies are parsable keys (true
    of Ed25519: an undecodable key verifies nothing). -/
theorem C03_accepts_spec_valid (S : SigScheme) (hv : ∀ pk m s, S.verify pk m s = true → S.pkValid pk = true)
    (H : Bytes → Bytes) (ver : Version) (ltpk request nonce dg : Bytes) (hdg : dg.length ≤ 4096)
    (hlt : ltpk.length = 32) (midp radi : Nat)
    (hok : RT.verifyResponse S H (protoOfVer ver) ltpk request nonce dg = .ok (midp, radi))
    (pk? : Option Bytes) (hk : pk? = none ∨ pk? = some ltpk) :
    ∃ idx, Client.handleResponse S H ver pk? nonce request dg = .ok ⟨midp, radi, pk?.isSome, idx⟩ := by
  obtain ⟨body, hb, f, hf, c, s, hres⟩ := Lemmas.RT.verifyResponse_ok hok
  cases hres
  refine ⟨_, Lemmas.Client.handleResponse_of hdg hb hf c s.rootN pk? fun pk hpk => ?_⟩
  rcases hk with hk | hk <;> rw [hk] at hpk <;> cases hpk
  exact ⟨rfl, hlt, hv _ _ _ c.deleOK, hv _ _ _ c.srepOK⟩

/-- C09: no client receives a usable response built for another client's request — if the reply
    the server built for position i of a batch is accepted by the spec verifier for a request whose
    Merkle leaf is not the leaf at position i, SHA-512 is broken (explicit collision / zero preimage). -/
theorem C09_no_cross_client (S : SigScheme) (H : Bytes → Bytes) (hH : ∀ x, (H x).length = 64)
    (hsig : ∀ seed m, (S.sign seed m).length = 64) (hpk : ∀ seed, (S.pk seed).length = 32)
    (p : RT.Proto) (ltpk ltSeed onlSeed : Bytes) (midp radi : Nat)
    (leaves : List Bytes) (i : Nat) (hi : i < leaves.length) (hn : leaves.length ≤ 2 ^ 32)
    (nonceI : Bytes) (hni : nonceI.length % 4 = 0) (hnil : nonceI.length < 2 ^ 16)
    (otherRequest otherNonce : Bytes)
    (hother : (match p with | .classic => otherNonce | .draft13 => otherRequest) ≠ leaves[i])
    (res : Nat × Nat)
    (hacc : RT.verifyResponse S H p ltpk otherRequest otherNonce
      (RT.respond S H p ltSeed onlSeed midp radi 0 (2 ^ 64 - 1) leaves i nonceI) = .ok res) :
    MT.Broken (RT.mcfg H p) := by
  let r : Lemmas.Client.RParams := ⟨S, H, p, ltSeed, onlSeed, midp, radi, 0, 2 ^ 64 - 1, leaves, i, nonceI⟩
  have hok : r.OK := ⟨hH, hsig, hpk, hi, hn, hni, hnil⟩
  rw [r.respond_eq] at hacc
  obtain ⟨body, hb, f, hf, c, -⟩ := Lemmas.RT.verifyResponse_ok hacc
  exact (r.core_binding hok (Lemmas.RT.aframe_of_vframe hb).1 hf c).resolve_right hother

/-- C05/C06: every value of every accepted message is 4-byte aligned (so nested decoding and the
    u32/u64 readers never see ragged input) -/
theorem C05_values_aligned (b : Bytes) (m : Msg) (h : fromBytes b = .ok m) : m.Aligned :=
  Lemmas.fromBytes_aligned h

/-- C16: a seed text that is not valid hexadecimal makes start-up fail, from either source -/
theorem C16_bad_seed_text_refused (fs : FsFacts) (d : Cfg) (src : Source) (entries : List (String × String))
    (hnd : (entries.map (·.1)).Nodup) (txt : String) (hmem : ("seed", txt) ∈ entries)
    (hq : txt.toList.head? ≠ some '"') (hbad : hexDecode txt = none) :
    start fs d src entries = none :=
  Lemmas.Config.bad_seed_refused fs d src entries txt hmem hq hbad

end Rough.Props.Extra2
