import Rough.Lemmas.ServerSpec
/-
  C09 — exactly one response per accepted request, to its sender, for its own nonce.
  The socket is a parameter: a run is ANY list of passes, each pass having read any chunk of
  datagrams (only the first batch_size of a chunk are consumed) — this covers every arrival timing.
-/
namespace Rough.Props.C09
open Rough Rough.ServerSpec

/-- a freshly created server satisfies the invariant -/
theorem C09_new (E : Env) (hE : EnvOK E) (K : Keys) (hK : K.OK) (b : Nat) :
    ∃ s, Server.new E K.seed K.onlI K.onlC b = .ok s ∧ Inv E K s ∧ s.batchSize = b :=
  ⟨_, Lemmas.Keys.server_new_eq_ok.mpr
      ⟨hK.1, hK.2.1, hK.2.2, _, Lemmas.Keys.calcSrv_ok E.H _ (by rw [hE.hashLen]; omega), rfl⟩,
    ⟨rfl, rfl, rfl, rfl, rfl, rfl, Lemmas.ServerSpec.ss_certOf_eq E K .ietf, Lemmas.ServerSpec.ss_certOf_eq E K .google,
      List.cons_ne_nil _ _, List.cons_ne_nil _ _⟩, rfl⟩

/-- One pass, from any reachable state: the datagrams sent are exactly the reference responder's
    reply for each accepted IETF request (in arrival order, each to its own source, echoing its own
    nonce, with its own index and inclusion path in the batch of the accepted IETF requests of this
    pass, IETF-framed), followed by the same for the accepted classic requests (unframed).
    Rejected datagrams contribute nothing. The recorded statistics events are one per datagram
    received and one per datagram sent. The invariant is re-established (so the next pass starts
    from clean batches whatever sizes came before). -/
theorem C09_pass (E : Env) (hE : EnvOK E) (K : Keys) (hK : K.OK) (debug : Bool) (s : Server)
    (hs : Inv E K s) (hb : s.batchSize ≤ 2 ^ 32) (p : Server.Pass) (hp : PassOK p) :
    ∃ s', Server.pass E debug s p = .ok (s', expectedSent E K s p, expectedEvents E K s p) ∧
      Inv E K s' ∧ s'.batchSize = s.batchSize ∧ s'.srv = s.srv :=
  Lemmas.ServerSpec.pass_spec E hE K debug s hs hb p hp

/-- Any number of passes: the outputs are the concatenation of the per-pass expected outputs. -/
theorem C09_run (E : Env) (hE : EnvOK E) (K : Keys) (hK : K.OK) (debug : Bool) (s : Server)
    (hs : Inv E K s) (hb : s.batchSize ≤ 2 ^ 32) (ps : List Server.Pass) (hp : ∀ p ∈ ps, PassOK p) :
    ∃ s', Server.run E debug s ps = .ok (s', ps.flatMap (expectedSent E K s), ps.flatMap (expectedEvents E K s)) ∧
      Inv E K s' :=
  let ⟨s', h1, h2, _⟩ := Lemmas.ServerSpec.run_spec E hE K debug ps s hs hb hp
  ⟨s', h1, h2⟩

/-- exactly one: the number of datagrams sent in a pass equals the number of accepted requests, and
    the i-th reply of a batch goes to the source of the i-th accepted request of that protocol -/
theorem C09_exactly_once (E : Env) (K : Keys) (ver : Version) (now : Nat × Nat) (reqs : List (Datagram × Bytes)) :
    (expectedBatch E K ver now reqs).length = reqs.length ∧
    ∀ i (h : i < reqs.length), ((expectedBatch E K ver now reqs)[i]?).map (·.dst) = some reqs[i].1.src :=
  ⟨Lemmas.ServerSpec.ss_expectedBatch_length E K ver now reqs,
    fun i h => by rw [Lemmas.ServerSpec.ss_expectedBatch_getElem? E K ver now reqs i h]; rfl⟩

/-- protocol separation: an accepted request appears in exactly one of the two batches, the one of
    its own protocol -/
theorem C09_protocol_separation (srv : Bytes) (chunk : List Datagram) (d : Datagram) (n : Bytes) :
    ((d, n) ∈ accepted srv .ietf chunk → nonceFromRequest d.bytes srv = .ok (n, .ietf)) ∧
    ((d, n) ∈ accepted srv .google chunk → nonceFromRequest d.bytes srv = .ok (n, .google)) :=
  ⟨fun h => (Lemmas.ServerSpec.ss_mem_accepted.mp h).2, fun h => (Lemmas.ServerSpec.ss_mem_accepted.mp h).2⟩

end Rough.Props.C09
