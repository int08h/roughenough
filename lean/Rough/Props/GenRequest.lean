import Rough.Bridge.Request
import Rough.Props.C07
/-
  C07 / C12 stated directly about the request classifier `nonce_from_request` as REGENERATED FROM /repo's RUST SOURCE on
  every run (Rough/Generated/Src/Request.lean): a bridge theorem of Rough/Bridge/Request.lean composed with the
  model-level theorems of Props/C07.lean, Props/C12.lean.  Nothing new is proved about the model here.
-/
namespace Rough.Props.GenCore
open Rough Rough.Bridge

/-- C07 (totality) for the translated code: for every receive buffer, every datagram length that fits in it and every
    SRV value, the generated classifier returns a nonce or an error — it never panics. -/
theorem GEN_request_total (buf : Bytes) (n : Nat) (srv : Bytes) (hn : n ≤ buf.length) (s : String) :
    Gen.nonce_from_request buf n srv ≠ .panic s :=
  Res.ne_panic_of_isPanic (nonce_from_request_no_panic buf n srv hn) s

/-- C07 (only well-formed requests are answered) for the translated code: if the generated classifier accepts the
    datagram `buf[..n]` with nonce `nonce` and protocol `v`, then the datagram is 1024..1500 bytes long, the nonce has
    the protocol's length, the reference classification (written from the property text) says this datagram MUST be
    answered with exactly that nonce, and `v` is the protocol the datagram's framing selects. -/
theorem GEN_request_only_wellformed (buf : Bytes) (n : Nat) (srv nonce : Bytes) (v : Version) (hn : n ≤ buf.length)
    (h : Gen.nonce_from_request buf n srv = .ok (nonce, v)) :
    1024 ≤ n ∧ n ≤ 1500 ∧ nonce.length = v.nonceLen ∧
    Spec.RT.classifyRequest (Spec.RT.protoOf (buf.take n)) srv (buf.take n) = .must nonce ∧
    v = Props.C12.versionOf (Spec.RT.protoOf (buf.take n)) := by
  have hm := (Res.Sim.ok_iff (nonce_from_request_sim buf n srv hn) (nonce, v)).mp h
  have hlen : (buf.take n).length = n := by rw [List.length_take]; omega
  have := Props.C07.C07_only_wellformed (buf.take n) srv nonce v hm
  rw [hlen] at this
  exact this

/-- C12 (agreement with the reference classification) for the translated code, on every receive buffer, datagram
    length that fits in it and server: a datagram the reference says MUST be answered is accepted by the generated
    classifier with exactly that nonce and protocol; one it says MAY be answered (draft-13 only beyond the fourth VER
    entry) and one it says must NOT be answered are rejected with an error. -/
theorem GEN_request_spec (buf : Bytes) (n : Nat) (srv : Bytes) (hn : n ≤ buf.length) :
    (∀ x, Spec.RT.classifyRequest (Spec.RT.protoOf (buf.take n)) srv (buf.take n) = .must x →
        Gen.nonce_from_request buf n srv = .ok (x, Props.C12.versionOf (Spec.RT.protoOf (buf.take n)))) ∧
    (∀ x, Spec.RT.classifyRequest (Spec.RT.protoOf (buf.take n)) srv (buf.take n) = .may x →
        Gen.nonce_from_request buf n srv = .err) ∧
    (Spec.RT.classifyRequest (Spec.RT.protoOf (buf.take n)) srv (buf.take n) = .no →
        Gen.nonce_from_request buf n srv = .err) := by
  have hsim := nonce_from_request_classify buf n srv hn
  exact ⟨fun x hx => (hsim.ok_iff _).mpr (by rw [hx]; rfl), fun x hx => hsim.err_iff.mpr (by rw [hx]; rfl),
    fun hx => hsim.err_iff.mpr (by rw [hx]; rfl)⟩

/-- C12 (answered only if …) for the translated code: if the generated classifier accepts the datagram `buf[..n]` as
    an IETF request, then the datagram is a framed message that decodes (reference decoder), whose VER list contains
    draft-13, whose SRV — when present — is this server's, and whose NONC is the returned 32-byte nonce. -/
theorem GEN_request_only_if (buf : Bytes) (n : Nat) (srv nonce : Bytes) (hn : n ≤ buf.length)
    (h : Gen.nonce_from_request buf n srv = .ok (nonce, .ietf)) :
    ∃ body m v, Spec.RT.unframe (buf.take n) = some body ∧ Spec.decode body = some m ∧ m.get Tag.VER = some v ∧
      (Spec.RT.versionList v).contains Spec.RT.ver13 = true ∧ (m.get Tag.SRV = none ∨ m.get Tag.SRV = some srv) ∧
      m.get Tag.NONC = some nonce ∧ nonce.length = 32 :=
  Props.C12.C12_only_if (buf.take n) srv nonce ((Res.Sim.ok_iff (nonce_from_request_sim buf n srv hn) _).mp h)

end Rough.Props.GenCore
