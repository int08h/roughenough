import Rough.Lemmas.Keys
/-
  C10 — server identity is a pure function of the seed and certifies every online key.
  "public key = RFC 8032 public key of the seed" and "SRV = SHA-512(0xff ‖ pk)[0..32]" are the model's
  definitions instantiated with the Lean RFC 8032 / FIPS 180-4 transcriptions; their tie to the code
  is the correspondence run (LongTermKey / Server::get_public_key / CERT of real replies), not a theorem.
-/
namespace Rough.Props.C10
open Rough

/-- Both certificates a server creates verify under the long-term key of the seed, each under its
    own protocol's delegation context, and certify exactly the online key of that responder. -/
theorem C10_cert_valid (E : Env) (hS : E.S.Correct) (hE : ServerSpec.EnvOK E) (seed onlI onlC : Bytes) (b : Nat)
    (hseed : seed.length = 32) (hI : onlI.length = 32) (hC : onlC.length = 32) :
    ∃ s, Server.new E seed onlI onlC b = .ok s ∧ s.ltPub = E.S.pk seed ∧
      s.srv = (E.H ((0xff : UInt8) :: E.S.pk seed)).take 32 ∧
      ∀ r ∈ [s.ietf, s.classic], ∃ cert sig dele deleM,
        Spec.decode r.cert = some cert ∧ cert.get Tag.SIG = some sig ∧ cert.get Tag.DELE = some dele ∧
        E.S.verify (E.S.pk seed) (r.ver.delePrefix ++ dele) sig = true ∧
        Spec.decode dele = some deleM ∧ deleM.get Tag.PUBK = some (E.S.pk r.onl.seed) ∧
        deleM.get Tag.MINT = some (le64 0) ∧ deleM.get Tag.MAXT = some (le64 (2 ^ 64 - 1)) ∧
        r.onl.buf = [] :=
  Lemmas.Keys.cert_valid_aligned E hS seed onlI onlC b hseed hI hC (by rw [hE.hashLen]; omega)
    (by rw [hE.pkLen]; omega) (by rw [hE.pkLen]; omega) (fun m => by rw [hE.sigLen]; omega)

/-- the delegation window [0, 2^64−1] contains every representable midpoint -/
theorem C10_window (m : Nat) (h : m < 2 ^ 64) : leVal (le64 0) ≤ m ∧ m ≤ leVal (le64 (2 ^ 64 - 1)) :=
  Lemmas.Keys.window m h

/-- the two delegation contexts can never produce the same signed message: whatever delegations
    d, d' are appended, the byte strings differ (position 33: '-' vs NUL). Hence a certificate
    verifying under the other protocol's context would be a second valid (message, signature) pair
    for a message the long-term key never signed. -/
theorem C10_context_separation (d d' : Bytes) :
    Version.google.delePrefix ++ d ≠ Version.ietf.delePrefix ++ d' := by
  rw [Lemmas.Keys.delePrefix_google, Lemmas.Keys.delePrefix_ietf, List.append_assoc, List.append_assoc]
  intro h
  exact absurd (List.cons.inj (List.append_cancel_left h)).1 (by decide)

/-- no signer carry-over between the two certificates: the second certificate's signature is over
    exactly `delePrefix google ‖ DELE₂`, nothing left from the first. -/
theorem C10_no_carry_over (E : Env) (seed onlI onlC : Bytes) (b : Nat) (s : Server)
    (h : Server.new E seed onlI onlC b = .ok s) :
    ∃ deleC, makeDele E.S onlC = .ok deleC ∧
      ∃ certM, buildMsg "longterm.rs:make_cert:add_field.unwrap"
          [(Tag.SIG, E.S.sign seed (Version.google.delePrefix ++ encode deleC)), (Tag.DELE, encode deleC)] = .ok certM ∧
        s.classic.cert = encode certM := by
  obtain ⟨-, -, -, srv, -, rfl⟩ := Lemmas.Keys.server_new_eq_ok.mp h
  exact ⟨_, Lemmas.Keys.makeDele_eq E.S onlC, _, Lemmas.Keys.buildMsg_sorted _ _ (by tags_sorted), rfl⟩

/-- identity is a function of the seed alone: two servers created from the same seed (restarts,
    workers) announce the same key and SRV value whatever their online keys and settings. -/
theorem C10_deterministic (E : Env) (seed onlI onlC onlI' onlC' : Bytes) (b b' : Nat) (s s' : Server)
    (h : Server.new E seed onlI onlC b = .ok s) (h' : Server.new E seed onlI' onlC' b' = .ok s') :
    s.ltPub = s'.ltPub ∧ s.srv = s'.srv := by
  obtain ⟨-, -, -, srv, hs, rfl⟩ := Lemmas.Keys.server_new_eq_ok.mp h
  obtain ⟨-, -, -, srv', hs', rfl⟩ := Lemmas.Keys.server_new_eq_ok.mp h'
  exact ⟨rfl, Res.ok.inj (hs.symm.trans hs')⟩

end Rough.Props.C10
