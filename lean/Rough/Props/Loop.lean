import Rough.Lemmas.Loop
/-
  Event-loop theorems: `Server::process_events` as a whole (Model/EventLoop.lean). They carry the
  per-pass theorems of C02/C07/C08/C09 to the real call structure (poll, three event arms, backlog flag,
  at most 16 batches per call) and add what only the loop can say: nothing queued is ever forgotten
  (C08 "wedge", C18), every call is bounded (C19), every pending health-check connection is answered
  exactly once (C15), the recorder sees exactly the events of the call (C17).
  Attributed to their properties in checklib/props.py.
-/
namespace Rough.Props.Loop
open Rough Rough.EventLoop Rough.LoopSpec Rough.ServerSpec Rough.Stats

/-- Refinement: a socket service IS `Server.run` on the batches of the plan, plus queue / flag /
    recorder bookkeeping — an equation that holds for every state, every input and every outcome
    (including the panic outcomes). Every theorem about `Server.run` on arbitrary pass lists therefore
    applies to the real call structure. -/
theorem LOOP_service_refines (E : Env) (debug : Bool) (M : Nat) (st : Loop) (ins : Nat → PassIn) :
    serviceSocket E debug M st ins =
      (Server.run E debug st.srv (plan st.srv.batchSize M st.sockQ ins).passes).bind fun (srv', sent, ev) =>
        .ok ({ st with srv := srv', sockQ := (plan st.srv.batchSize M st.sockQ ins).rest,
                       sockEdge := st.sockEdge || (plan st.srv.batchSize M st.sockQ ins).arrived,
                       backlog := (plan st.srv.batchSize M st.sockQ ins).full,
                       recd := st.recd.recordAll ev },
             ⟨sent, ev, [], (plan st.srv.batchSize M st.sockQ ins).passes.length⟩) :=
  Lemmas.Loop.service_refines E debug M st ins

/-- FIFO conservation: the batches read, in order, followed by what stays queued, are exactly the
    queue followed by what arrived during the batches that ran — nothing lost, duplicated or reordered. -/
theorem LOOP_plan_conserves (B M : Nat) (q : List Datagram) (ins : Nat → PassIn) :
    (plan B M q ins).passes.flatMap (·.chunk) ++ (plan B M q ins).rest =
      q ++ (List.range (plan B M q ins).passes.length).flatMap (fun i => (ins i).arrivals) := by
  fun_induction plan B M q ins with
  | case1 q ins => simp
  | case2 M q ins pi q' p h => simp [p, q', pi, mkPass]
  | case3 M q ins pi q' p h r ih =>
    simp only [List.flatMap_cons, List.append_assoc, List.length_cons, r, ih]
    rw [List.range_succ_eq_map, List.flatMap_cons, List.flatMap_map]
    simp only [p, q', pi, mkPass, ← List.append_assoc, List.take_append_drop]

/-- C19: a service runs at most `M` batches of at most `B` datagrams whatever arrives meanwhile; it
    stops early only because the socket ran dry, and then nothing is left queued. -/
theorem LOOP_plan_bounded (B M : Nat) (q : List Datagram) (ins : Nat → PassIn) :
    (plan B M q ins).passes.length ≤ M ∧ (∀ p ∈ (plan B M q ins).passes, p.chunk.length ≤ B) ∧
    ((plan B M q ins).full = true → (plan B M q ins).passes.length = M) ∧
    ((plan B M q ins).full = false → (plan B M q ins).rest = []) :=
  Lemmas.Loop.plan_bounded B M q ins

/-- C08 at the level of the call: for every reachable server state, ANY list of events (in any order,
    even repeated), any datagrams queued or arriving, any log level and any drawable fault injection,
    `process_events` returns normally and keeps the server invariant. -/
theorem LOOP_call_safe (E : Env) (hE : EnvOK E) (K : Keys) (hK : K.OK) (debug : Bool) (st : Loop)
    (hs : Inv E K st.srv) (hb : st.srv.batchSize ≤ 2 ^ 32) (c : CallIn) (hi : InsSafe c.passes)
    (hh : Token.healthCheck ∈ c.events → st.hcListener = true) :
    ∃ st' out, processEvents E debug st c = .ok (st', out) ∧ Inv E K st'.srv ∧
      st'.srv.batchSize = st.srv.batchSize ∧ st'.hcListener = st.hcListener :=
  Lemmas.Loop.call_safe E hE K debug st hs hb c hi hh

/-- … and so does every history of environment steps and calls. -/
theorem LOOP_run_safe (E : Env) (hE : EnvOK E) (K : Keys) (hK : K.OK) (debug : Bool) (st : Loop)
    (hs : Inv E K st.srv) (hb : st.srv.batchSize ≤ 2 ^ 32) (steps : List Step)
    (hi : ∀ c, Step.call c ∈ steps → InsSafe c.passes ∧ (Token.healthCheck ∈ c.events → st.hcListener = true)) :
    ∃ st' outs, run E debug st steps = .ok (st', outs) ∧ Inv E K st'.srv := by
  induction steps generalizing st with
  | nil => exact ⟨st, [], rfl, hs⟩
  | cons s rest ih =>
    cases s with
    | env e =>
      obtain ⟨f1, f2⟩ := Lemmas.Loop.env_frame st e
      exact ih (envStep st e) (f1 ▸ hs) (f1 ▸ hb) fun c hc => f2 ▸ hi c (List.mem_cons_of_mem _ hc)
    | call c =>
      obtain ⟨hc1, hc2⟩ := hi c (List.mem_cons_self ..)
      obtain ⟨st1, o1, h1, h2, h3, h4⟩ := Lemmas.Loop.call_safe E hE K debug st hs hb c hc1 hc2
      obtain ⟨st2, outs, g1, g2⟩ := ih st1 h2 (h3 ▸ hb) fun c' hc' => h4 ▸ hi c' (List.mem_cons_of_mem _ hc')
      exact ⟨st2, o1 :: outs, by simp only [run, h1, Res.bind_ok, g1], g2⟩

/-- The liveness invariant `Live` holds of the state `Server::new` builds. -/
theorem LOOP_live_new (srv : Server) (hc pc : Bool) (limit : Nat) : Live (EventLoop.new srv hc pc limit) :=
  ⟨fun h => absurd rfl h, fun h => absurd rfl h, fun h => nomatch h⟩

/-- `Live` is kept by everything the environment does (a datagram arrives, a client connects, the timer fires). -/
theorem LOOP_live_env (st : Loop) (h : Live st) (e : EnvStep) : Live (envStep st e) := by
  obtain ⟨h1, h2, h3⟩ := h
  cases e with
  | arrive d => exact ⟨fun _ => Or.inl rfl, h2, h3⟩
  | connect a =>
    simp only [envStep]
    split
    · exact ⟨h1, fun _ => rfl, fun _ => by assumption⟩
    · exact ⟨h1, h2, h3⟩
  | fire => exact ⟨h1, h2, h3⟩

/-- `Live` is kept by every call whose events are what `poll` returns: after a call, a non-empty socket queue
    always has a pending readiness event or the backlog flag, so the next call services it without
    waiting for an unrelated arrival; and no connection is left pending without an event. -/
theorem LOOP_live_call (E : Env) (debug : Bool) (st : Loop) (c : CallIn) (h : Live st) (he : EventsOK st c)
    (st' : Loop) (out : Out) (hr : processEvents E debug st c = .ok (st', out)) : Live st' :=
  Lemmas.Loop.live_call E debug st c h he st' out hr

/-- Progress of one call (nothing arriving meanwhile): it answers exactly the first 16·batch_size queued
    datagrams — the replies are the reference responder's, batch by batch — and leaves the others queued. -/
theorem LOOP_call_progress (E : Env) (hE : EnvOK E) (K : Keys) (hK : K.OK) (debug : Bool) (st : Loop)
    (hs : Inv E K st.srv) (hb : st.srv.batchSize ≤ 2 ^ 32) (hl : Live st) (c : CallIn) (he : EventsOK st c)
    (hi : InsOK c.passes) (hq : Quiet c.passes) :
    ∃ st' out, processEvents E debug st c = .ok (st', out) ∧
      out.sent = (plan st.srv.batchSize 16 st.sockQ c.passes).passes.flatMap (expectedSent E K st.srv) ∧
      (plan st.srv.batchSize 16 st.sockQ c.passes).passes.flatMap (·.chunk) = st.sockQ.take (16 * st.srv.batchSize) ∧
      st'.sockQ = st.sockQ.drop (16 * st.srv.batchSize) ∧
      Inv E K st'.srv ∧ st'.srv.batchSize = st.srv.batchSize ∧ st'.srv.srv = st.srv.srv := by
  obtain ⟨st', out, h1, h2, h3, h4, h5, h6, h7, _⟩ := Lemmas.Loop.call_progress E hE K debug st hs hb hl c he hi hq
  exact ⟨st', out, h1, h2, h3, h4, h5, h6, h7⟩

/-- Drain: from any live state, `n` calls with nothing happening in between empty a queue shorter than
    n·16·batch_size; across those calls every queued datagram is read exactly once, in order, in batches of
    at most batch_size, and the number of datagrams sent is exactly the number of accepted requests that
    were queued (one reply each); the backlog flag ends cleared. -/
theorem LOOP_drains (E : Env) (hE : EnvOK E) (K : Keys) (hK : K.OK) (debug : Bool) (st : Loop)
    (hs : Inv E K st.srv) (hb : st.srv.batchSize ≤ 2 ^ 32) (hB : 0 < st.srv.batchSize) (hl : Live st)
    (ins : Nat → Nat → PassIn) (hi : ∀ k, InsOK (ins k)) (hq : ∀ k, Quiet (ins k))
    (n : Nat) (hn : st.sockQ.length < n * (16 * st.srv.batchSize)) :
    ∃ (st' : Loop) (outs : List Out) (passes : List Server.Pass), idleCalls E debug ins n st = .ok (st', outs) ∧ st'.sockQ = [] ∧ st'.backlog = false ∧
      passes.flatMap (·.chunk) = st.sockQ ∧ (∀ p ∈ passes, p.chunk.length ≤ st.srv.batchSize) ∧
      outs.flatMap (·.sent) = passes.flatMap (expectedSent E K st.srv) ∧
      (outs.flatMap (·.sent)).length =
        (accepted st.srv.srv .ietf st.sockQ).length + (accepted st.srv.srv .google st.sockQ).length :=
  Lemmas.Loop.drains E hE K hK debug st hs hb hB hl ins hi hq n hn

/-- C15: every connection pending on the health-check listener when a call starts is answered in that
    call, exactly once, in order; none stays pending. -/
theorem LOOP_hc_exactly_once (E : Env) (debug : Bool) (st : Loop) (c : CallIn) (hl : Live st) (he : EventsOK st c)
    (st' : Loop) (out : Out) (hr : processEvents E debug st c = .ok (st', out)) :
    out.hcAnswered = st.hcQ ∧ st'.hcQ = [] :=
  have h := Lemmas.Loop.call_frame E debug st c hl he st' out hr
  ⟨h.2.1, h.1⟩

/-- C17 wiring: between two statistics publications the recorder is exactly the fold of the events of
    the call, in order; nothing is published unless the timer fired. -/
theorem LOOP_recorder (E : Env) (debug : Bool) (st : Loop) (c : CallIn) (st' : Loop) (out : Out)
    (hr : processEvents E debug st c = .ok (st', out)) (hn : Token.statusUpdate ∉ c.events) :
    st'.recd = st.recd.recordAll out.events ∧ st'.published = st.published :=
  Lemmas.Loop.recorder E debug st c st' out hr hn

/-- Witness (the shape of seeded change C18-r2): a service that never sets the backlog flag leaves
    datagrams queued with neither flag nor event … -/
theorem LOOP_noflag_strands (E : Env) (hE : EnvOK E) (K : Keys) (hK : K.OK) (debug : Bool) (st : Loop)
    (hs : Inv E K st.srv) (hb : st.srv.batchSize ≤ 2 ^ 32) (M : Nat) (ins : Nat → PassIn) (hi : InsOK ins)
    (hq : Quiet ins) (hlen : M * st.srv.batchSize < st.sockQ.length) :
    ∃ st' out, serviceSocketNoFlag E debug M st ins = .ok (st', out) ∧ st'.sockQ ≠ [] ∧
      st'.backlog = st.backlog ∧ st'.sockEdge = st.sockEdge := by
  -- it is the repaired service with the flag left alone: the plan of a quiet queue leaves `q.drop (M * B)` and no edge
  obtain ⟨s', h1, _⟩ := Lemmas.ServerSpec.run_spec E hE K debug _ st.srv hs hb
    (Lemmas.Loop.plan_passes_all st.srv.batchSize M st.sockQ ins fun i _ => hi i)
  obtain ⟨_, P2, P3, _⟩ := Lemmas.Loop.plan_quiet st.srv.batchSize M st.sockQ ins hq
  rw [Lemmas.Loop.serviceNoFlag_eq, Lemmas.Loop.service_refines, h1]
  refine ⟨_, _, rfl, ?_, rfl, ?_⟩
  · show (plan st.srv.batchSize M st.sockQ ins).rest ≠ []
    rw [P2]
    exact List.ne_nil_of_length_pos (by rw [List.length_drop]; omega)
  · show (st.sockEdge || (plan st.srv.batchSize M st.sockQ ins).arrived) = st.sockEdge
    rw [P3, Bool.or_false]

/-- … and in such a state every further call (poll has nothing to return) does nothing at all: the
    queued requests wait until an unrelated datagram arrives. -/
theorem LOOP_stuck (E : Env) (debug : Bool) (st : Loop) (h1 : st.sockEdge = false) (h2 : st.backlog = false)
    (h3 : st.hcEdge = false) (h4 : st.timerDue = false) (c : CallIn) (he : EventsOK st c) :
    processEvents E debug st c = .ok (st, {}) := by
  obtain ⟨events, passes⟩ := c
  obtain ⟨_, e1, e2, e3⟩ := he
  simp only [h1, h3, h4, Bool.false_eq_true, iff_false] at e1 e2 e3
  obtain rfl : events = [] := Lemmas.Loop.tokens_nil events e1 e2 e3
  have h0 : Lemmas.Loop.lbSt0 st ⟨[], passes⟩ = st := by
    obtain ⟨srv, bl, sq, se, hl, hq, he, td, rc, pb⟩ := st
    simp only at h1 h3 h4
    subst h1 h3 h4
    rfl
  rw [Lemmas.Loop.processEvents_eq_tail, Lemmas.Loop.callTail_nil, h0, h2]
  rfl

/-- Witness of finding F10: one `accept` per readiness event leaves the second connection pending with
    no event to come. -/
theorem LOOP_hc_once_strands (st : Loop) (hL : st.hcListener = true) (a b : Addr) (rest : List Addr)
    (hq : st.hcQ = a :: b :: rest) (he : st.hcEdge = false) :
    ∃ st' out, handleHealthCheckOnce st = .ok (st', out) ∧ out.hcAnswered = [a] ∧ st'.hcQ = b :: rest ∧
      st'.hcEdge = false := by
  unfold handleHealthCheckOnce
  simp only [hL, Bool.not_true, Bool.false_eq_true, if_false, hq]
  exact ⟨_, _, rfl, rfl, rfl, he⟩

end Rough.Props.Loop
