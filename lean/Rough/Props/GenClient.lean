import Rough.Bridge.Client
import Rough.Props.C01
import Rough.Props.C03
/-
  C01 / C03 stated directly about the client's `make_request`, `receive_response`, `ResponseHandler::new` and
  `extract_time` as REGENERATED FROM /repo's RUST SOURCE on every run (Rough/Generated/Src/Client.lean): a bridge theorem
  of Rough/Bridge/Client.lean composed with the model-level theorems of Props/C01.lean, Props/C03.lean.  Nothing new is
  proved about the model here.
-/
namespace Rough.Props.GenCore
open Rough Rough.Bridge

/-- everything the client does with a received datagram, with the generated functions: `receive_response` on the
    receive buffer and the number of bytes received, then `ResponseHandler::new(..)`, then `extract_time()` -/
def genHandle (S : SigScheme) (H : Bytes → Bytes) (ver : Version) (pk : Option Bytes) (nonce request : Bytes)
    (buf : Bytes) (n : Nat) : Res Gen.ParsedResponse :=
  (Gen.receive_response S H ver buf n).bind fun msg =>
    (Gen.ResponseHandler.new S H ver pk msg nonce request).bind fun h => Gen.ResponseHandler.extract_time S H h

theorem genHandle_sim (S : SigScheme) (H : Bytes → Bytes) (hH : ∀ x, (H x).length = 64) (ver : Version)
    (pk : Option Bytes) (nonce request dg : Bytes) (hdg : dg.length ≤ 4096) :
    genHandle S H ver pk nonce request (dg ++ zeros (4096 - dg.length)) dg.length ≃ᵣ
      (Client.handleResponse S H ver pk nonce request dg).map toParsed := by
  have hrecv := receive_response_sim S H ver dg
  rw [List.take_of_length_le hdg] at hrecv
  unfold genHandle Client.handleResponse
  exact hrecv.bind_map_map fun msg _ => handle_sim S H hH ver pk nonce request msg

/-- C01 (soundness / fail-closed) for the translated code, with SHA-512 as the parameter `H` (64-byte outputs): with
    a pinned key, for every datagram of at most 4096 bytes placed in the client's zeroed 4096-byte receive buffer,
    if the generated validation path (`receive_response`, `ResponseHandler::new`, `extract_time`) returns a result
    instead of panicking (= non-zero exit, no time printed), then the result says verified = true and the datagram is
    authentic under that key for the client's own request by the property's own list of conditions — signature chain
    under the protocol's context strings, midpoint inside the delegation window, Merkle proof binding this request to
    the signed root — with exactly the reported midpoint and radius. -/
theorem GEN_client_sound (S : SigScheme) (H : Bytes → Bytes) (hH : ∀ x, (H x).length = 64) (ver : Version)
    (pk nonce request dg : Bytes) (hdg : dg.length ≤ 4096) (p : Gen.ParsedResponse)
    (h : genHandle S H ver (some pk) nonce request (dg ++ zeros (4096 - dg.length)) dg.length = .ok p) :
    p.verified = true ∧
    Spec.RT.authentic S H (ServerSpec.protoOfVer ver) pk request nonce dg = some (p.midpoint, p.radius) := by
  obtain ⟨o, ho, hp⟩ := (genHandle_sim S H hH ver (some pk) nonce request dg hdg).of_eq_ok_map h
  rw [hp]
  exact Props.C01.C01_sound S H ver pk nonce request dg hdg o ho

/-- C03 (request well-formedness) for the translated code, with SHA-512 as the parameter `H` (64-byte outputs): for
    a nonce of the protocol's length (64 bytes classic / 32 bytes draft-13), with or without a 32-byte pinned key,
    and for either value of the `text_dump` flag (it only prints), the generated `make_request` returns — does not
    panic — a request that is 1024 bytes (classic) / 1036 bytes (draft-13: 1024 + the 12-byte RFC frame) long, hence
    inside the server's 1024..1500 window, and that the reference classification `Spec.RT.classifyRequest` of a
    server whose SRV value is the hash of the pinned key (any server if no key is pinned) classifies `must nonce`,
    in the protocol the client was asked to speak. -/
theorem GEN_client_request_wellformed (S : SigScheme) (H : Bytes → Bytes) (hH : ∀ x, (H x).length = 64)
    (ver : Version) (nonce : Bytes) (hn : nonce.length = ver.nonceLen) (text_dump : Bool) (pk? : Option Bytes)
    (hpk : ∀ pk, pk? = some pk → pk.length = 32) (srv : Bytes)
    (hsrv : ∀ pk, pk? = some pk → srv = (H ((0xff : UInt8) :: pk)).take 32) :
    ∃ req, Gen.make_request S H ver nonce text_dump pk? = .ok req ∧
      req.length = (match ver with | .google => 1024 | .ietf => 1036) ∧
      Spec.RT.classifyRequest (ServerSpec.protoOfVer ver) srv req = .must nonce ∧
      Spec.RT.protoOf req = ServerSpec.protoOfVer ver := by
  obtain ⟨req, hreq, hrest⟩ := Props.C03.C03_request_wellformed H hH ver nonce hn pk? hpk srv hsrv
  exact ⟨req, Res.Sim.eq_ok (hreq ▸ make_request_sim S H hH ver nonce text_dump pk?), hrest⟩

/-- C03 (completeness) for the translated code, with SHA-512 as the parameter `H` (64-byte outputs): the reference
    responder's reply `RT.respond …` for ANY batch (1..2^32 leaves) in which the client's request sits at ANY
    position `i` — under all the hypotheses of `C03_accept` — placed in the client's zeroed 4096-byte receive buffer
    (it always fits: `respond_fits_buffer`, so no length hypothesis is needed), is accepted by the generated
    validation path (`receive_response`, `ResponseHandler::new`, `extract_time`), with or without the pinned key: it
    returns — does not panic — exactly the signed midpoint, the signed radius and verified = (a key was supplied).

    Deviation from the model-level statement: the model's `Client.Outcome` also carries `index = i`, but the
    generated `Gen.ParsedResponse` (= the Rust `ParsedResponse` that `extract_time` returns) has only the fields
    `verified`, `midpoint`, `radius` — the Rust `main` reads INDX from the response by itself, and the bridge's
    `toParsed` drops it — so there is no `p.index` to state `p.index = i` about.  The three fields that exist are
    all pinned down (the returned value is exactly `⟨pk?.isSome, midp, radi⟩`); that the INDX used in the Merkle
    check is `i` is part of what acceptance means in the model (`C03_accept`, outcome index `i`). -/
theorem GEN_client_accepts (S : SigScheme) (hS : S.Correct) (hv : ∀ seed, S.pkValid (S.pk seed) = true)
    (H : Bytes → Bytes) (hH : ∀ x, (H x).length = 64)
    (hsig : ∀ seed m, (S.sign seed m).length = 64) (hpk : ∀ seed, (S.pk seed).length = 32)
    (ver : Version) (ltSeed onlSeed : Bytes) (hlt : ltSeed.length = 32) (hon : onlSeed.length = 32)
    (midp radi : Nat) (hm : midp < 2 ^ 64) (hr : radi < 2 ^ 32)
    (leaves : List Bytes) (i : Nat) (hi : i < leaves.length) (hn : leaves.length ≤ 2 ^ 32)
    (request nonce : Bytes) (hnl : nonce.length = ver.nonceLen)
    (hleaf : leaves[i] = (match ver with | .google => nonce | .ietf => request))
    (pk? : Option Bytes) (hk : pk? = none ∨ pk? = some (S.pk ltSeed))
    (dg : Bytes)
    (hdg : dg = Spec.RT.respond S H (ServerSpec.protoOfVer ver) ltSeed onlSeed midp radi 0 (2 ^ 64 - 1) leaves i
      nonce) :
    dg.length ≤ 4096 ∧
    ∃ p, genHandle S H ver pk? nonce request (dg ++ zeros (4096 - dg.length)) dg.length = .ok p ∧
      p.midpoint = midp ∧ p.radius = radi ∧ p.verified = pk?.isSome := by
  have hlen : dg.length ≤ 4096 := by
    rw [hdg]
    exact Lemmas.Client.respond_fits_buffer S H hH hsig hpk ver ltSeed onlSeed midp radi 0 (2 ^ 64 - 1) leaves i hi hn nonce hnl
  have hacc := Props.C03.C03_accept S hS hv H hH hsig hpk ver ltSeed onlSeed hlt hon midp radi hm hr leaves i hi hn
    request nonce hnl hleaf pk? hk
  rw [← hdg] at hacc
  exact ⟨hlen, _, (genHandle_sim S H hH ver pk? nonce request dg hlen).eq_ok_of_map hacc, rfl, rfl, rfl⟩

end Rough.Props.GenCore
