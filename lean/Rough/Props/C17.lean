import Rough.Lemmas.Stats
/-
  C17 — request statistics conserve events, stay bounded, and match the traffic served.
-/
namespace Rough.Props.C17
open Rough Rough.Stats Rough.ServerSpec

/-- sum of all per-address counters of all kinds -/
def PerClient.grandTotal (s : PerClient) : Nat := (Kind.all.map s.total).sum

/-- Conservation for every history and every limit: no counter ever exceeds the number of events
    of exactly its kind for exactly its address (an event never lands in another counter), and the
    counters plus the overflow count add up to the number of events (each event is reflected exactly
    once: in its counter or in the overflow count, never both, never lost). -/
theorem C17_conservation (limit : Nat) (h : List Event) :
    let s := PerClient.run (PerClient.init limit) h
    (∀ a k, s.get a k ≤ count h a k) ∧ PerClient.grandTotal s + s.overflows = h.length :=
  Lemmas.Stats.conservation limit h

/-- the number of tracked addresses never exceeds the limit (for limit ≥ 1; with limit 0 nothing is
    tracked), and no address is tracked twice -/
theorem C17_bounded (limit : Nat) (h : List Event) :
    let s := PerClient.run (PerClient.init limit) h
    s.clients.length ≤ limit ∧ (s.clients.map (·.1)).Nodup :=
  Lemmas.Stats.bounded limit h

/-- while no overflow has occurred the per-client recorder reports exactly the totals of the
    aggregated recorder, for every getter -/
theorem C17_equiv (limit : Nat) (h : List Event)
    (h0 : (PerClient.run (PerClient.init limit) h).overflows = 0) :
    (PerClient.run (PerClient.init limit) h).totals = (Aggregated.run Aggregated.init h).totals :=
  -- both recorders start empty, and `Lemmas.Stats.Rel` (the table sums to the aggregated block) is kept by every step
  Lemmas.Stats.totals_of_rel _ _ (Lemmas.Stats.run_rel h _ _ ⟨fun k => by cases k <;> rfl, rfl⟩ h0)

/-- the aggregated recorder counts every event exactly once in the counter of its kind -/
theorem C17_aggregated (h : List Event) (k : Kind) :
    (Aggregated.run Aggregated.init h).c.get k = (h.filter fun e => e.kind = k).length :=
  Lemmas.Stats.aggregated h k

/-- merging per-worker snapshots in the reporter preserves every per-address sum: the merged
    counter of kind k for address a is the sum of that counter over all snapshot entries for a -/
theorem C17_merge (snapshots : List (List (Addr × Counters))) (a : Addr) (k : Kind) :
    (((reporterReceive [] snapshots).find? (fun p => p.1 = a)).map (·.2.get k)).getD 0
      = ((snapshots.flatten.filter fun p => p.1 = a).map (·.2.get k)).sum :=
  Lemmas.Stats.merge snapshots a k

/-- wiring: the events a pass records (C09_pass) make the totals equal the traffic of the pass:
    valid = accepted requests, invalid = the other datagrams read, responses = datagrams sent,
    bytes = total length of the datagrams sent. -/
theorem C17_wiring (E : Env) (K : Keys) (s : Server) (p : Server.Pass) :
    let t := (Aggregated.run Aggregated.init (expectedEvents E K s p)).totals
    let chunk := p.chunk.take s.batchSize
    let nI := (accepted s.srv .ietf chunk).length
    let nC := (accepted s.srv .google chunk).length
    t.rfcRequests = nI ∧ t.classicRequests = nC ∧ t.validRequests = nI + nC ∧
    t.invalidRequests + nI + nC = chunk.length ∧
    t.responses = (expectedSent E K s p).length ∧ t.rfcResponses = nI ∧ t.classicResponses = nC ∧
    t.bytesSent = ((expectedSent E K s p).map (·.bytes.length)).sum ∧
    t.healthChecks = 0 ∧ t.failedSends = 0 ∧ t.retriedSends = 0 :=
  Lemmas.Stats.wiring E K s p

example : (PerClient.run (PerClient.init 1) [⟨.ietfReq, 1, 0⟩, ⟨.classicReq, 2, 0⟩, ⟨.ietfReq, 1, 0⟩]).overflows = 2 := by
  decide

end Rough.Props.C17
