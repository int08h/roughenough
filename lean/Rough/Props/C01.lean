import Rough.Lemmas.ClientSound
import Rough.Lemmas.Respond
/-
  C01 — the client never reports an unauthentic response as verified.
  `Client.handleResponse` models everything the client does with a received datagram; `.ok o` means
  "prints the time, exit status 0", a panic means "non-zero exit, no time printed".
  `Spec.RT.authentic` is the property's own list of conditions, written independently.
-/
namespace Rough.Props.C01
open Rough Rough.Spec Rough.ServerSpec

/-- Soundness / fail-closed: with a pinned key, the client accepts a datagram only if it is
    authentic under that key for the client's own request — signature chain under the protocol's
    context strings, midpoint inside the delegation window, Merkle proof binding this request to the
    signed root — and then reports verified = true and exactly the signed midpoint and radius.
    Contrapositive: any datagram failing one of the conditions makes the client fail. -/
theorem C01_sound (S : SigScheme) (H : Bytes → Bytes) (ver : Version) (pk nonce request dg : Bytes)
    (hdg : dg.length ≤ 4096) (o : Client.Outcome)
    (h : Client.handleResponse S H ver (some pk) nonce request dg = .ok o) :
    o.verified = true ∧
    RT.authentic S H (protoOfVer ver) pk request nonce dg = some (o.midpoint, o.radius) := by
  obtain ⟨m, hrecv, hp⟩ := Res.of_bind_eq_ok h
  obtain ⟨body, hb, -, hm⟩ := (Lemmas.Client.receiveResponse_eq_ok hdg).mp hrecv
  have hbl := Lemmas.Client.aframe_length_le hb
  obtain ⟨f, hf, hc, v1, v2, rfl⟩ := Lemmas.Client.handleParsed_some S H ver pk nonce request body (by omega) m hm o hp
  exact ⟨rfl, Lemmas.RT.authentic_eq_some.mpr ⟨body, hb, f, hf, hc, v1, v2, rfl⟩⟩

/-- No replay: a genuine response that was produced for a batch not containing this request's leaf
    (an earlier request of this run or of a previous run — nonces differ) is accepted for this
    request only if SHA-512 is broken (explicit collision / zero preimage). That each request carries
    a fresh nonce is a property of the OS random generator, outside the model (measured by the harness). -/
theorem C01_no_replay (S : SigScheme) (H : Bytes → Bytes) (hH : ∀ x, (H x).length = 64)
    (hsig : ∀ seed m, (S.sign seed m).length = 64) (hpk : ∀ seed, (S.pk seed).length = 32)
    (p : RT.Proto) (pk ltSeed onlSeed : Bytes) (midp radi mint maxt : Nat)
    (hm : midp < 2 ^ 64) (hr : radi < 2 ^ 32) (hmi : mint < 2 ^ 64) (hma : maxt < 2 ^ 64)
    (leaves : List Bytes) (i : Nat) (hi : i < leaves.length) (hn : leaves.length ≤ 2 ^ 32)
    (oldNonce : Bytes) (hon : oldNonce.length % 4 = 0) (honl : oldNonce.length < 2 ^ 16)
    (request nonce : Bytes)
    (hfresh : (match p with | .classic => nonce | .draft13 => request) ∉ leaves)
    (res : Nat × Nat)
    (hacc : RT.authentic S H p pk request nonce
      (RT.respond S H p ltSeed onlSeed midp radi mint maxt leaves i oldNonce) = some res) :
    MT.Broken (RT.mcfg H p) := by
  let r : Lemmas.Client.RParams := ⟨S, H, p, ltSeed, onlSeed, midp, radi, mint, maxt, leaves, i, oldNonce⟩
  have hok : r.OK := ⟨hH, hsig, hpk, hi, hn, hon, honl⟩
  rw [r.respond_eq] at hacc
  obtain ⟨body, hb, f, hf, c, -⟩ := Lemmas.RT.authentic_eq_some.mp hacc
  -- the leaf climbs the old reply's path to its root: it is the leaf at `i`, which is in `leaves`
  refine (r.core_binding hok hb hf c).resolve_right fun hd => hfresh ?_
  show Lemmas.RT.Resp.leafFor p nonce request ∈ leaves
  exact hd ▸ List.getElem_mem hi

end Rough.Props.C01
