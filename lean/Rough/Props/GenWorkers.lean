import Rough.Bridge.ResponderNew
import Rough.Props.C09
import Rough.Props.C10
/-
  C18 (key-material part) stated about the constructors as REGENERATED from /repo's Rust source: every worker of a
  multi-worker server is created from the ONE long-term seed, with its own online seeds; the two responders the
  generated `LongTermKey::new` + `Responder::new` (IETF) + `Responder::new` (classic) create for a worker are the
  generated images of the responders of the model server `Server.new`, which satisfies the model invariant `Inv`
  (hypothesis `hinv` of `C18_workers`), and both certificates are certificates of the same long-term key `E.S.pk seed`.
  Composition of `server_responders_sim` (bridge) with `C09_new` and `C10_cert_valid` (model); nothing new is proved
  about the model here.
-/
namespace Rough.Props.GenCore
open Rough Rough.Bridge Rough.ServerSpec

/-- the responders `Server::new` creates (IETF first, then classic, one long-term key object), as translated -/
def genResponders (E : Env) (seed onlI onlC : Bytes) (gqI gqC : List Grease) (cfg : Config.Cfg) :
    Res (Gen.Responder × Gen.Responder) :=
  (Gen.LongTermKey.new E.S E.H seed).bind fun ltk =>
    (Gen.Responder.new E.S E.H onlI gqI Version.ietf cfg ltk).bind fun r1 =>
      (Gen.Responder.new E.S E.H onlC gqC Version.google cfg r1.2).bind fun r2 =>
        Res.ok (r1.1, r2.1)

/-- C18 / C20 (bridge step): the responders the generated constructors create (`genResponders`) are the generated images of
    the two responders of the model's `Server.new` (`server_responders_sim` without the returned long-term key) -/
theorem genResponders_sim (E : Env) (seed onlI onlC : Bytes) (b : Nat) (gqI gqC : List Grease) (cfg : Config.Cfg) :
    genResponders E seed onlI onlC gqI gqC cfg ≃ᵣ
      (Server.new E seed onlI onlC b).map fun s =>
        (toGenResponder s.ietf ⟨gqI, Grease.none⟩, toGenResponder s.classic ⟨gqC, Grease.none⟩) := by
  have h := (server_responders_sim E seed onlI onlC b gqI gqC cfg).map fun x => (x.1, x.2.1)
  simpa only [genResponders, Res.map_bind, Res.map_map, Res.map_ok, Function.comp_def] using h

/-- C18: what one worker is created from besides the shared long-term seed — its own two online seeds (drawn by
    `MsgSigner::new` / `OnlineKey::new` from the system random source), its own fault-injection decision lists and its
    configuration record -/
structure Worker where
  onlI : Bytes
  onlC : Bytes
  gqI : List Grease
  gqC : List Grease
  cfg : Config.Cfg

/-- C18 (key material of the workers), for the translated constructors: for ONE 32-byte long-term seed and ANY list of
    workers, each with its own pair of 32-byte online seeds (and its own fault-injection lists and configuration
    record), the generated `LongTermKey::new seed` followed by the generated `Responder::new` for IETF and then for
    classic (`genResponders`) returns normally a pair of responders `(rI, rC)`; these are exactly the generated images
    of the IETF / classic responders of the model server `s = Server.new E seed onlI onlC b`, which satisfies the model
    invariant `Inv E ⟨seed, onlI, onlC⟩ s` (the hypothesis `hinv` of `C18_workers`, with `K.seed = seed`) and announces
    the public key `E.S.pk seed` and the SRV value `H(0xff ‖ pk)[0..32]` — the same for every worker; and each of the
    two generated responders carries `cert_bytes` that the reference decoder reads as a CERT with fields SIG and DELE
    where SIG verifies under the SAME long-term public key `E.S.pk seed` over
    `delegation context of the responder's version ‖ DELE bytes`, and DELE carries that responder's own online public
    key, MINT = 0 and MAXT = 2^64 − 1; the versions are IETF and classic, the online seeds are the worker's own, and
    the online signers' buffers are empty. -/
theorem GEN_workers_one_identity (E : Env) (hE : EnvOK E) (hS : E.S.Correct) (seed : Bytes) (hseed : seed.length = 32)
    (b : Nat) (workers : List Worker) (hw : ∀ w ∈ workers, w.onlI.length = 32 ∧ w.onlC.length = 32) :
    ∀ w ∈ workers, ∃ (s : Server) (rI rC : Gen.Responder),
      genResponders E seed w.onlI w.onlC w.gqI w.gqC w.cfg = .ok (rI, rC) ∧
      Server.new E seed w.onlI w.onlC b = .ok s ∧
      rI = toGenResponder s.ietf ⟨w.gqI, Grease.none⟩ ∧
      rC = toGenResponder s.classic ⟨w.gqC, Grease.none⟩ ∧
      Inv E ⟨seed, w.onlI, w.onlC⟩ s ∧ s.batchSize = b ∧
      s.ltPub = E.S.pk seed ∧ s.srv = (E.H ((0xff : UInt8) :: E.S.pk seed)).take 32 ∧
      rI.version = Version.ietf ∧ rC.version = Version.google ∧
      rI.online_key.signer = ⟨w.onlI, []⟩ ∧ rC.online_key.signer = ⟨w.onlC, []⟩ ∧
      ∀ r ∈ [rI, rC], ∃ cert sig dele deleM,
        Spec.decode r.cert_bytes = some cert ∧ cert.get Tag.SIG = some sig ∧ cert.get Tag.DELE = some dele ∧
        E.S.verify (E.S.pk seed) (r.version.delePrefix ++ dele) sig = true ∧
        Spec.decode dele = some deleM ∧ deleM.get Tag.PUBK = some (E.S.pk r.online_key.signer.seed) ∧
        deleM.get Tag.MINT = some (le64 0) ∧ deleM.get Tag.MAXT = some (le64 (2 ^ 64 - 1)) := by
  intro w hmem
  obtain ⟨hI, hC⟩ := hw w hmem
  obtain ⟨s, hnew, hinv, hb⟩ := Props.C09.C09_new E hE ⟨seed, w.onlI, w.onlC⟩ ⟨hseed, hI, hC⟩ b
  obtain ⟨s', hnew', hpub, hsrv, hcert⟩ := Props.C10.C10_cert_valid E hS hE seed w.onlI w.onlC b hseed hI hC
  have hss : s' = s := Res.ok.inj (hnew'.symm.trans hnew)
  subst hss
  have hgen := (genResponders_sim E seed w.onlI w.onlC b w.gqI w.gqC w.cfg).eq_ok_of_map hnew
  refine ⟨s', _, _, hgen, hnew, rfl, rfl, hinv, hb, hpub, hsrv, hinv.verI, hinv.verC, hinv.onlI, hinv.onlC, ?_⟩
  intro r hr
  simp only [List.mem_cons, List.mem_nil_iff, or_false] at hr
  rcases hr with rfl | rfl
  · obtain ⟨cert, sig, dele, deleM, h1, h2, h3, h4, h5, h6, h7, h8, _⟩ := hcert s'.ietf (by simp)
    exact ⟨cert, sig, dele, deleM, h1, h2, h3, h4, h5, h6, h7, h8⟩
  · obtain ⟨cert, sig, dele, deleM, h1, h2, h3, h4, h5, h6, h7, h8, _⟩ := hcert s'.classic (by simp)
    exact ⟨cert, sig, dele, deleM, h1, h2, h3, h4, h5, h6, h7, h8⟩

/-- C18 (one identity across workers): any two workers of the list hold certificates signed by the same long-term key
    and announce the same public key and SRV value — the model servers of any two workers created from the one seed
    (whose generated images the workers' responders are, `GEN_workers_one_identity`) agree on `ltPub` and `srv`, and
    the generated responders of both exist. -/
theorem GEN_workers_same_identity (E : Env) (hE : EnvOK E) (hS : E.S.Correct) (seed : Bytes)
    (hseed : seed.length = 32) (b : Nat) (workers : List Worker)
    (hw : ∀ w ∈ workers, w.onlI.length = 32 ∧ w.onlC.length = 32) :
    ∀ w ∈ workers, ∀ w' ∈ workers, ∃ (s s' : Server),
      genResponders E seed w.onlI w.onlC w.gqI w.gqC w.cfg =
        .ok (toGenResponder s.ietf ⟨w.gqI, Grease.none⟩, toGenResponder s.classic ⟨w.gqC, Grease.none⟩) ∧
      genResponders E seed w'.onlI w'.onlC w'.gqI w'.gqC w'.cfg =
        .ok (toGenResponder s'.ietf ⟨w'.gqI, Grease.none⟩, toGenResponder s'.classic ⟨w'.gqC, Grease.none⟩) ∧
      s.ltPub = E.S.pk seed ∧ s'.ltPub = E.S.pk seed ∧ s.srv = s'.srv := by
  intro w hmem w' hmem'
  obtain ⟨s, rI, rC, hg, _, rfl, rfl, _, _, hp, hsrv, _⟩ :=
    GEN_workers_one_identity E hE hS seed hseed b workers hw w hmem
  obtain ⟨s', rI', rC', hg', _, rfl, rfl, _, _, hp', hsrv', _⟩ :=
    GEN_workers_one_identity E hE hS seed hseed b workers hw w' hmem'
  exact ⟨s, s', hg, hg', hp, hp', hsrv.trans hsrv'.symm⟩

end Rough.Props.GenCore
