import Rough.Lemmas.Loop
/-
  Event-loop theorems about a whole worker: the bound on the work of one call in the real call structure, the
  worker's polling loop with the shutdown flag (C19 on the concrete loop model rather than on counters), and
  independence of the kernel's distribution of datagrams over the workers' sockets (C18).
-/
namespace Rough.Props.Loop2
open Rough Rough.EventLoop Rough.LoopSpec Rough.ServerSpec Rough.Stats

/-- C19: a `process_events` call whose events are what `poll` returns runs at most 16 batches — whatever is
    queued, whatever arrives while it runs, in whatever state the worker is (no invariant needed). -/
theorem LOOP_call_batches_bounded (E : Env) (debug : Bool) (st : Loop) (c : CallIn) (he : EventsOK st c)
    (st' : Loop) (out : Out) (hr : processEvents E debug st c = .ok (st', out)) :
    out.batches ≤ 16 ∧ out.sent.length ≤ 16 * st.srv.batchSize :=
  Lemmas.Loop.call_bounded E debug st c he.1 st' out hr

/-- C19 on the concrete loop: whatever arrives and whatever events fire, for ever, the worker returns right
    after the first call that ends once the flag is set — call number `flagAt` — having run every call
    normally (each at most 16 batches by the previous theorem); nothing sent in those calls is lost or cut
    short (the outputs are exactly those of calls 0..flagAt). -/
theorem LOOP_polling_exits (E : Env) (hE : EnvOK E) (K : Keys) (hK : K.OK) (debug : Bool) (st : Loop)
    (hs : Inv E K st.srv) (hb : st.srv.batchSize ≤ 2 ^ 32) (flagAt : Nat) (calls : Nat → CallIn)
    (hi : ∀ k, InsSafe (calls k).passes ∧ (Token.healthCheck ∈ (calls k).events → st.hcListener = true))
    (fuel : Nat) (hf : flagAt < fuel) :
    ∃ st' outs, pollingLoop E debug flagAt calls fuel 0 st = .ok (some flagAt, st', outs) ∧
      outs.length = flagAt + 1 ∧ Inv E K st'.srv := by
  obtain ⟨st', outs, h1, h2, h3⟩ := Lemmas.Loop.polling E hE K debug flagAt calls st.hcListener hi fuel 0 st hs hb rfl
    (Nat.zero_le _) (by omega)
  exact ⟨st', outs, h1, by omega, h3⟩

/-- C18: how the kernel distributes the datagrams over the workers' sockets is irrelevant for how many are
    answered: for ANY split of the datagrams `all` into per-worker queues (any permutation, any sizes, empty
    queues allowed), the per-worker numbers of accepted requests — which by `LOOP_drains` are the numbers of
    replies each worker sends — add up to the number of accepted requests in `all`. (All workers share `srv`,
    the commitment to the one long-term key: `Inv.srv`.) -/
theorem LOOP_distribution_independent (srv : Bytes) (ver : Version) (queues : List (List Datagram))
    (all : List Datagram) (hperm : queues.flatten.Perm all) :
    (queues.map fun q => (accepted srv ver q).length).sum = (accepted srv ver all).length := by
  -- `accepted` filters datagram by datagram, so its count is additive over the queues and invariant under permutation
  rw [Lemmas.ServerSpec.ss_accepted_eq, ← (hperm.filterMap _).length_eq]
  clear hperm
  induction queues with
  | nil => rfl
  | cons q qs ih =>
    rw [List.map_cons, List.sum_cons, List.flatten_cons, List.filterMap_append, List.length_append, ih,
      Lemmas.ServerSpec.ss_accepted_eq]

end Rough.Props.Loop2
