import Rough.Bridge.Sign
import Rough.Props.C13
/-
  C13 stated directly about `MsgSigner` / `MsgVerifier` as REGENERATED FROM /repo's RUST SOURCE on every run
  (Rough/Generated/Src/Sign.lean): the bridge theorems of Rough/Bridge/Sign.lean, iterated over a history of calls,
  composed with the model-level theorems of Props/C13.lean.  Nothing new is proved about the model here.
-/
namespace Rough.Props.GenCore
open Rough Rough.Bridge

/-- run a history of `update` / `sign` calls on one generated signer object; outputs = the signatures in order -/
def genRunSigner (S : SigScheme) : Gen.MsgSigner → List SignerOp → Res (List Bytes)
  | _, [] => .ok []
  | g, .update d :: ops => (Gen.MsgSigner.update S g d).bind fun g' => genRunSigner S g' ops
  | g, .sign :: ops =>
    (Gen.MsgSigner.sign S g).bind fun p => (genRunSigner S p.2 ops).bind fun sigs => .ok (p.1 :: sigs)

/-- feed a list of chunks to one generated verifier object -/
def genUpdateAll (S : SigScheme) (g : Gen.MsgVerifier) (chunks : List Bytes) : Res Gen.MsgVerifier :=
  chunks.foldl (fun r d => r.bind fun g => Gen.MsgVerifier.update S g d) (.ok g)

theorem genRunSigner_eq (S : SigScheme) (ops : List SignerOp) : ∀ s : Signer,
    genRunSigner S (toGenSigner s) ops = .ok (runSigner S s ops) := by
  induction ops with
  | nil => intro s; rfl
  | cons op ops ih =>
    intro s
    cases op with
    | update d => simp only [genRunSigner, runSigner, signer_update_eq, Res.bind_ok, ih]
    | sign => simp only [genRunSigner, runSigner, signer_sign_eq, Res.bind_ok, ih]

theorem genUpdateAll_eq (S : SigScheme) (chunks : List Bytes) : ∀ v : Verifier,
    genUpdateAll S (toGenVerifier v) chunks = .ok (toGenVerifier (chunks.foldl Verifier.update v)) :=
  fun v => Res.foldl_bind_ok toGenVerifier (fun _ => True) (fun v d _ => ⟨verifier_update_eq S v d, trivial⟩) chunks v
    trivial

/-- C13 (signer) for the translated code: for every seed and every history of `update`s and `sign`s on one generated
    `MsgSigner` object starting with an empty buffer, every call returns normally and the k-th signature is the
    one-shot signature of the concatenated chunks of the k-th message alone (nothing carried over from earlier
    messages). -/
theorem GEN_signer (S : SigScheme) (seed : Bytes) (ops : List SignerOp) :
    genRunSigner S ⟨seed, []⟩ ops = .ok ((Props.C13.segments ops).map (S.sign seed)) := by
  have h := genRunSigner_eq S ops ⟨seed, []⟩
  rw [Props.C13.C13_signer] at h
  exact h

/-- C13 (no carry-over) for the translated code: the generated `MsgSigner::sign` signs exactly the buffered bytes and
    leaves an object indistinguishable from a new one for the same key. -/
theorem GEN_signer_no_carry_over (S : SigScheme) (g : Gen.MsgSigner) :
    Gen.MsgSigner.sign S g = .ok (S.sign g.signing_key g.buf, ⟨g.signing_key, []⟩) := by
  have h := signer_sign_eq S ⟨g.signing_key, g.buf⟩
  rw [Props.C13.C13_no_carry_over] at h
  exact h

/-- C13 (independence of chunking) for the translated code: feeding the same message to a generated `MsgSigner` in
    two different chunkings gives the same signature. -/
theorem GEN_signer_chunking (S : SigScheme) (seed : Bytes) (c1 c2 : List Bytes) (h : c1.flatten = c2.flatten) :
    genRunSigner S ⟨seed, []⟩ (c1.map .update ++ [.sign]) = genRunSigner S ⟨seed, []⟩ (c2.map .update ++ [.sign]) := by
  have h1 := genRunSigner_eq S (c1.map .update ++ [.sign]) ⟨seed, []⟩
  have h2 := genRunSigner_eq S (c2.map .update ++ [.sign]) ⟨seed, []⟩
  rw [Props.C13.C13_chunking S seed c1 c2 h] at h1
  exact h1.trans h2.symm

/-- C13 (verifier) for the translated code: for a parsable 32-byte key and a 64-byte signature, the generated
    `MsgVerifier` — `new`, then the message fed in arbitrary chunks through `update`, then `verify` — returns normally
    and accepts exactly when one-shot verification of the concatenation does. -/
theorem GEN_verifier (S : SigScheme) (pk : Bytes) (chunks : List Bytes) (sig : Bytes)
    (hpk : pk.length = 32) (hv : S.pkValid pk = true) (hs : sig.length = 64) :
    ((Gen.MsgVerifier.new S pk).bind fun g => (genUpdateAll S g chunks).bind fun g' => Gen.MsgVerifier.verify S g' sig)
      = .ok (S.verify pk chunks.flatten sig) := by
  have hm := Props.C13.C13_verifier S pk chunks sig hpk hv hs
  have hsim : ((Gen.MsgVerifier.new S pk).bind fun g => (genUpdateAll S g chunks).bind fun g' =>
      Gen.MsgVerifier.verify S g' sig) ≃ᵣ
      (Verifier.new S pk).bind (fun v => (chunks.foldl Verifier.update v).verify S sig) := by
    refine (verifier_new_sim S pk).bind_map fun v _ => ?_
    rw [genUpdateAll_eq, Res.bind_ok]
    exact verifier_verify_sim S _ sig
  rw [hm] at hsim
  exact hsim.eq_ok

end Rough.Props.GenCore
