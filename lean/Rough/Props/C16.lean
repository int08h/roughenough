import Rough.Lemmas.Config
/-
  C16 — effective settings equal the written ones (file or env), else start is refused.
  `start fs defaults src entries = some c` means the server starts with effective configuration c;
  `none` means start-up is refused (loader error, loader panic, or failed validation).
  Integer settings are written in decimal (`showInt`). yaml-rust's scalar typing, `str::parse` and the
  file system are represented by the small functions of Model/Config.lean, which the probe-process
  correspondence validates against the real loaders on a boundary grid.
-/
namespace Rough.Props.C16
open Rough Rough.Config

/-- Never silently replaced: if the server starts from a source in which an integer setting is
    written once with value v, the value it runs with IS v — for every key, every v (including the
    type-width wrap points 256, 65536, 2^32 …), both sources, whatever the other settings are. -/
theorem C16_effective_is_written (fs : FsFacts) (d : Cfg) (src : Source) (entries : List (String × String))
    (hnd : (entries.map (·.1)).Nodup) (k : IntKey) (v : Int) (hmem : (k.name, showInt v) ∈ entries)
    (c : Cfg) (h : start fs d src entries = some c) :
    c.get k = some v.toNat ∧ 0 ≤ v :=
  let r := Lemmas.Config.effective_is_written_strong fs d src entries hnd k v hmem c h
  ⟨r.1, r.2.1⟩

/-- Out-of-range values make start-up fail: a written value outside the documented range
    (port 1–65535, batch_size 1–64, fault_percentage 0–50, num_workers ≥ 1; negative anything) is
    refused by both sources. -/
theorem C16_out_of_range_refused (fs : FsFacts) (d : Cfg) (src : Source) (entries : List (String × String))
    (hnd : (entries.map (·.1)).Nodup) (k : IntKey) (v : Int) (hmem : (k.name, showInt v) ∈ entries)
    (hout : ¬ k.documented v) :
    start fs d src entries = none := by
  cases h : start fs d src entries with
  | none => rfl
  | some c =>
    -- had it started, the value would be the written one, within the type width and past validation
    exfalso
    obtain ⟨hget, h0, hb, hval⟩ := Lemmas.Config.effective_is_written_strong fs d src entries hnd k v hmem c h
    obtain ⟨h1, _, _, _, h5, h6, h7, h8⟩ := Lemmas.Config.isValid_facts fs c hval
    apply hout
    cases k <;> simp only [Cfg.get, Option.some.injEq] at hget <;> simp only [IntKey.documented]
    · cases src <;> simp only [Lemmas.Config.bitsOf] at hb <;> omega
    · omega
    · omega
    · omega
    · omega
    · cases src <;> simp only [Lemmas.Config.bitsOf] at hb <;> omega

/-- every configuration the server runs with is inside the ranges the validator enforces, and its seed
    has 32 bytes when it is stored in plaintext -/
theorem C16_effective_in_range (fs : FsFacts) (d : Cfg) (src : Source) (entries : List (String × String))
    (c : Cfg) (h : start fs d src entries = some c) :
    1 ≤ c.port ∧ 1 ≤ c.batchSize ∧ c.batchSize ≤ 64 ∧ c.faultPct ≤ 50 ∧ 1 ≤ c.numWorkers ∧
    c.interface ≠ "" ∧ (c.kmsPlain = true → c.seed.length = 32) := by
  obtain ⟨_, hval⟩ := Lemmas.Config.start_some fs d src entries c h
  obtain ⟨h1, h2, _, h4, h5, h6, h7, h8⟩ := Lemmas.Config.isValid_facts fs c hval
  exact ⟨by omega, h5, h6, h7, by omega, h2, h4⟩

/-- both sources treat a decimal value the same way: for every integer key and every n < 65536 the
    file step and the environment step produce the same configuration or both refuse. For port,
    batch_size, fault_percentage and health_check_port this holds for every n at all; for num_workers
    for every n outside [2^63, 2^64) (by `C16_sources_disagree_witness` the statement is false without
    `hNumWorkersGap` for `k = .numWorkers`, `n = 2^63`); for status_interval not from 65536 on, which
    the file reads as u64 and the environment as u16. -/
theorem C16_sources_agree (c : Cfg) (k : IntKey) (n : Nat)
    (hn : n < 65536 ∨ k = .port ∨ k = .batchSize ∨ k = .faultPct ∨ k = .hcPort ∨ k = .numWorkers)
    (hNumWorkersGap : k = .numWorkers → n < 2 ^ 63 ∨ 2 ^ 64 ≤ n) :
    fileSet c k.name (showNat n) = envSet c k.name (showNat n) := by
  rw [← Lemmas.Config.showInt_ofNat, Lemmas.Config.fileSet_showInt, Lemmas.Config.envSet_showInt]
  -- the two acceptance conditions coincide: the widths differ only for status_interval (u64 / u16), and the file's i64
  -- bound matters only for num_workers
  refine ite_congr (propext ?_) (fun _ => rfl) (fun _ => rfl)
  cases k <;> simp only [Lemmas.Config.bitsOf, reduceCtorEq, or_false, or_true, forall_const,
    false_imp_iff] at hn hNumWorkersGap ⊢ <;> omega

/-- the asymmetry behind `hNumWorkersGap`: a num_workers value in [2^63, 2^64) is refused by the file
    source (YAML integers are i64) but accepted by the environment source (usize). Far outside any
    documented use (the value is a thread count). -/
theorem C16_sources_disagree_witness (c : Cfg) :
    fileSet c IntKey.numWorkers.name (showNat (2 ^ 63)) = none ∧
    envSet c IntKey.numWorkers.name (showNat (2 ^ 63)) = some { c with numWorkers := 2 ^ 63 } := by
  rw [← Lemmas.Config.showInt_ofNat, Lemmas.Config.fileSet_showInt, Lemmas.Config.envSet_showInt]
  constructor
  · rw [if_neg (by simp only [Lemmas.Config.bitsOf]; omega)]
  · rw [if_pos (by simp only [Lemmas.Config.bitsOf]; omega)]; rfl

/-- an unknown key in the file makes start-up fail -/
theorem C16_unknown_key_refused (fs : FsFacts) (d : Cfg) (entries : List (String × String))
    (key val : String) (hmem : (key, val) ∈ entries) (hunk : key ∉ knownKeys) :
    start fs d .file entries = none :=
  Lemmas.Config.start_refused fs d .file entries (key, val) hmem fun c => Lemmas.Config.fileSet_unknown c key val hunk

/-- a missing required setting (port, interface, seed) makes start-up fail, from either source -/
theorem C16_missing_required (fs : FsFacts) (src : Source) (entries : List (String × String))
    (req : String) (hreq : req = "port" ∨ req = "interface" ∨ req = "seed")
    (hmiss : ∀ kv ∈ entries, kv.1 ≠ req) (numWorkers : Nat) :
    start fs { numWorkers := numWorkers } src entries = none := by
  cases h : start fs { numWorkers := numWorkers } src entries with
  | none => rfl
  | some c =>
    -- no entry touches the setting, so it still has its default, which validation rejects
    exfalso
    obtain ⟨hrun, hval⟩ := Lemmas.Config.start_some fs _ src entries c h
    obtain ⟨h1, h2, h3, _⟩ := Lemmas.Config.isValid_facts fs c hval
    rcases hreq with rfl | rfl | rfl
    · exact h1 (foldl_bind_invariant (fun c => c.port = 0)
        (fun kv hkv c c' hP hs => ((Lemmas.Config.stepOne_frame src c c' kv.1 kv.2 hs).1 (hmiss kv hkv)).trans hP) rfl hrun)
    · exact h2 (foldl_bind_invariant (fun c => c.interface = "")
        (fun kv hkv c c' hP hs => ((Lemmas.Config.stepOne_frame src c c' kv.1 kv.2 hs).2.2.2.2.2.2.1 (hmiss kv hkv)).trans hP) rfl hrun)
    · exact h3 (foldl_bind_invariant (fun c => c.seed = [])
        (fun kv hkv c c' hP hs => ((Lemmas.Config.stepOne_frame src c c' kv.1 kv.2 hs).2.2.2.2.2.2.2 (hmiss kv hkv)).trans hP) rfl hrun)

/-- decimal rendering and the two integer parsers are inverse -/
theorem C16_parse_show (n bits : Nat) :
    parseUnsigned bits (showNat n) = (if n < 2 ^ bits then some n else none) ∧
    yamlInt (showNat n) = (if (n : Int) < 2 ^ 63 then some (n : Int) else none) :=
  ⟨Lemmas.Config.parseUnsigned_showNat n bits, Lemmas.Config.yamlInt_showNat n⟩

end Rough.Props.C16
