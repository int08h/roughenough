import Rough.Lemmas.ServerSpec
/-
  C08 — no datagram sequence can crash or wedge a serving worker.
  Panic-site inventory modelled as `Res.panic` branches: request.rs slices/subtraction, message.rs
  (C06), merkle.rs indexing and asserts (C04), responder.rs unwraps and the `nonce[0..4]` slice inside
  `debug!` (evaluated iff the log level enables Debug), grease.rs unwraps, online.rs arithmetic.
-/
namespace Rough.Props.C08
open Rough Rough.ServerSpec

/-- One pass never panics and re-establishes the invariant — for every chunk of arbitrary
    datagrams (any bytes, any lengths, any number), every log level (debug on or off), and every
    fault-injection decision the Rust code can draw. -/
theorem C08_pass_safe (E : Env) (hE : EnvOK E) (K : Keys) (hK : K.OK) (debug : Bool) (s : Server)
    (hs : Inv E K s) (hb : s.batchSize ≤ 2 ^ 32) (p : Server.Pass) (hp : PassSafe p) :
    ∃ s' sent ev, Server.pass E debug s p = .ok (s', sent, ev) ∧ Inv E K s' ∧
      s'.batchSize = s.batchSize :=
  let ⟨s', h, hinv, hbs, _⟩ := Lemmas.ServerSpec.pass_gen E hE K debug s hs hb p hp
  ⟨s', _, _, h, hinv, hbs⟩

/-- Induction over any finite history of passes: processing always returns normally. -/
theorem C08_run_safe (E : Env) (hE : EnvOK E) (K : Keys) (hK : K.OK) (debug : Bool) (s : Server)
    (hs : Inv E K s) (hb : s.batchSize ≤ 2 ^ 32) (ps : List Server.Pass) (hp : ∀ p ∈ ps, PassSafe p) :
    ∃ s' sent ev, Server.run E debug s ps = .ok (s', sent, ev) ∧ Inv E K s' :=
  let ⟨s', h, hinv, _⟩ := Lemmas.ServerSpec.run_gen E hE K debug ps s hs hb hp
  ⟨s', _, _, h, hinv⟩

/-- … and a valid request sent afterwards is answered correctly: after ANY history, a pass without
    fault injection produces exactly the reference responder's replies (C09_pass from the invariant),
    which the independent verifier accepts (C02). -/
theorem C08_still_serves (E : Env) (hE : EnvOK E) (K : Keys) (hK : K.OK) (debug : Bool) (s : Server)
    (hs : Inv E K s) (hb : s.batchSize ≤ 2 ^ 32) (ps : List Server.Pass) (hp : ∀ p ∈ ps, PassSafe p)
    (q : Server.Pass) (hq : PassOK q) :
    ∃ s' sent ev s'', Server.run E debug s ps = .ok (s', sent, ev) ∧
      Server.pass E debug s' q = .ok (s'', expectedSent E K s' q, expectedEvents E K s' q) := by
  obtain ⟨s', h1, hs', hb', _⟩ := Lemmas.ServerSpec.run_gen E hE K debug ps s hs hb hp
  obtain ⟨s'', h2, _⟩ := Lemmas.ServerSpec.pass_spec E hE K debug s' hs' (by omega) q hq
  exact ⟨s', _, _, s'', h1, h2⟩

/-- the unrepaired request parser (any nonce length accepted) let a panic through at Debug level:
    a 0-byte nonce makes `nonce[0..4]` panic — the witness of finding F5. -/
theorem C08_unfixed_witness : slice ([] : Bytes) 0 4 "responder.rs:send_responses:nonce[0..4]" =
    .panic "responder.rs:send_responses:nonce[0..4]" := by decide

end Rough.Props.C08
