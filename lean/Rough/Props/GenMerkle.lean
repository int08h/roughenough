import Rough.Bridge.Merkle
import Rough.Props.C04
/-
  C04 stated directly about the Lean code regenerated from /repo's src/merkle.rs on every run (`Gen.MerkleTree.*`,
  Rough/Generated/Src/Merkle.lean): the bridge theorems of Rough/Bridge/Merkle.lean (generated function = model function
  up to `≃ᵣ`) composed with the model-level theorems of Props/C04.lean.  Nothing new is proved about the model here, so
  the theorems re-check on every run against what the code says now.
-/
namespace Rough.Props.GenCore
open Rough Rough.Bridge

/-- `push_leaf` for every leaf of a batch, in order, with the generated function -/
def genPushAll (H : Bytes → Bytes) (g : Gen.MerkleTree) (leaves : List Bytes) : Res Gen.MerkleTree :=
  leaves.foldl (fun r d => r.bind fun g => Gen.MerkleTree.push_leaf H g d) (.ok g)

/-- what the responder does per batch with its long-lived tree, with the generated functions: `reset`, `push_leaf`
    for every leaf, `compute_root` (which returns the root and the tree object afterwards) -/
def genRunBatch (H : Bytes → Bytes) (g : Gen.MerkleTree) (leaves : List Bytes) : Res (Bytes × Gen.MerkleTree) :=
  (Gen.MerkleTree.reset H g).bind fun g1 => (genPushAll H g1 leaves).bind fun g2 => Gen.MerkleTree.compute_root H g2

theorem genPushAll_sim_aux (H : Bytes → Bytes) (hH : ∀ x, (H x).length = 64) (v : Version) (leaves : List Bytes) :
    ∀ (rg : Res Gen.MerkleTree) (rm : Res Tree), rg ≃ᵣ rm.map (toGenTree v) →
      leaves.foldl (fun r d => r.bind fun g => Gen.MerkleTree.push_leaf H g d) rg ≃ᵣ
        (leaves.foldl (fun r d => r.bind fun t => Merkle.pushLeaf (cfgOf H v) t d) rm).map (toGenTree v) := by
  induction leaves with
  | nil => intro rg rm h; exact h
  | cons d ds ih =>
    intro rg rm h
    simp only [List.foldl_cons]
    exact ih _ _ (h.bind_map_map fun t _ => push_leaf_sim H hH v t d)

theorem genRunBatch_sim (H : Bytes → Bytes) (hH : ∀ x, (H x).length = 64) (v : Version) (t : Tree)
    (leaves : List Bytes) :
    genRunBatch H (toGenTree v t) leaves ≃ᵣ
      (Merkle.runBatch (cfgOf H v) v.isIetf t leaves).map (fun p => (p.2, toGenTree v p.1)) := by
  unfold genRunBatch Merkle.runBatch genPushAll Merkle.pushAll
  rw [reset_eq, Res.bind_ok]
  exact (genPushAll_sim_aux H hH v leaves (.ok (toGenTree v (Merkle.reset t))) (.ok (Merkle.reset t))
    (Res.Sim.refl _)).bind_map_map fun t' _ => compute_root_sim H hH v t'

theorem hashLen_cfgOf (H : Bytes → Bytes) (hH : ∀ x, (H x).length = 64) (v : Version) : Merkle.HashLen (cfgOf H v) := by
  intro x
  have := nodeLen_le v
  simp only [cfgOf, List.length_take, hH]
  omega

theorem widthOK_cfgOf (H : Bytes → Bytes) (v : Version) : Merkle.WidthOK (cfgOf H v) v.isIetf := by
  cases v <;> simp [Merkle.WidthOK, cfgOf, nodeLen, Version.isIetf]

/-- C04 (completeness, totality, reuse) for the translated code, with SHA-512 as the parameter `H` (64-byte
    outputs): on ANY generated tree object `g` whose level vector is non-empty (fresh, or left behind by earlier
    batches), for either protocol version, `reset` + `push_leaf` of a non-empty batch of at most 2^32 leaves +
    `compute_root` returns normally; the root is the hash of the abstract tree of the batch; the tree object is again
    usable; and for every position `i` the generated `get_paths` on the resulting tree object returns the abstract
    sibling list, from which the generated verifier `root_from_paths` recomputes exactly that root for leaf `i`. -/
theorem GEN_merkle_complete (H : Bytes → Bytes) (hH : ∀ x, (H x).length = 64) (g : Gen.MerkleTree)
    (hg : g.levels ≠ []) (leaves : List Bytes) (hne : leaves ≠ []) (hsz : leaves.length ≤ 2 ^ 32) :
    ∃ g' r, genRunBatch H g leaves = .ok (r, g') ∧ g'.levels ≠ [] ∧ g'.version = g.version ∧
      r = Spec.MT.T.hash (cfgOf H g.version) (Spec.MT.treeOf leaves) ∧
      ∀ i (hi : i < leaves.length),
        Gen.MerkleTree.get_paths H g' i = .ok (Spec.MT.pathOf (cfgOf H g.version) leaves i).flatten ∧
        Gen.MerkleTree.root_from_paths H g' i leaves[i] (Spec.MT.pathOf (cfgOf H g.version) leaves i).flatten
          = .ok r := by
  obtain ⟨ls, v⟩ := g
  obtain ⟨t', r, hrun, ht', hr, hpaths⟩ := Props.C04.C04_complete (cfgOf H v) v.isIetf (hashLen_cfgOf H hH v)
    (widthOK_cfgOf H v) ⟨ls⟩ hg leaves hne hsz
  refine ⟨toGenTree v t', r, ?_, ht', rfl, hr, fun i hi => ?_⟩
  · exact (genRunBatch_sim H hH v ⟨ls⟩ leaves).eq_ok_of_map hrun
  · obtain ⟨h1, h2⟩ := hpaths i hi
    exact ⟨((get_paths_sim H v t' i).ok_iff _).mpr h1, ((root_from_paths_sim H hH v t' i _ _).ok_iff _).mpr h2⟩

/-- C04 (binding) for the translated verifier: if the generated `root_from_paths` (on any tree object of version `v`
    — it only reads the version) recomputes the root of a non-empty batch from an in-range index, a leaf and a path,
    then either the node hash is broken (explicit collision or preimage of the zero pad node) or the leaf is the
    batch's leaf at that index and the path is exactly the issued one. -/
theorem GEN_merkle_binding (H : Bytes → Bytes) (hH : ∀ x, (H x).length = 64) (g : Gen.MerkleTree)
    (leaves : List Bytes) (hne : leaves ≠ []) (i' : Nat) (hi : i' < leaves.length) (d' p' : Bytes)
    (h : Gen.MerkleTree.root_from_paths H g i' d' p' =
      .ok (Spec.MT.T.hash (cfgOf H g.version) (Spec.MT.treeOf leaves))) :
    Spec.MT.Broken (cfgOf H g.version) ∨
      (d' = leaves[i'] ∧ p' = (Spec.MT.pathOf (cfgOf H g.version) leaves i').flatten) := by
  obtain ⟨ls, v⟩ := g
  have hm := (Res.Sim.ok_iff (root_from_paths_sim H hH v ⟨ls⟩ i' d' p') _).mp h
  exact Props.C04.C04_binding (cfgOf H v) v.isIetf (hashLen_cfgOf H hH v) (widthOK_cfgOf H v) leaves hne i' hi d' p' hm

end Rough.Props.GenCore
