import Rough.Bridge.ProcessEvents
import Rough.Props.Loop
/-
  Property theorems stated directly about the Lean code REGENERATED FROM /repo's RUST SOURCE on every run
  (`Gen.Server.process_events`, Rough/Generated/Src/Server.lean), obtained by composing the bridge theorem
  `process_events_sim_passEnv` (generated code refines the model `EventLoop.processEvents`) with the model-level
  theorems of Props/Loop.lean.  They re-check on every run against what the code says now.
-/
namespace Rough.Props.GenLoop
open Rough Rough.Bridge Rough.EventLoop Rough.LoopSpec Rough.ServerSpec Rough.Stats
open Rough.Lemmas.Loop

/-- what `PEAux.passEnv_prov` says of the per-batch inputs of `process_events_sim_passEnv`: they are taken from the
    environment — clock readings of the socket's clock, fault-injection decisions that are suffixes of the pending lists -/
def FromEnv (sock : Gen.Sock) (gI gC : List Grease) (passes : Nat → PassIn) : Prop :=
  ∀ i, (passes i).arrivals = [] ∧
    (∃ k, (passes i).nowIetf = ((sock.clock k).secs, (sock.clock k).nanos)) ∧
    (∃ k, (passes i).nowClassic = ((sock.clock k).secs, (sock.clock k).nanos)) ∧
    (∃ n, (passes i).greaseIetf = gI.drop n) ∧ (∃ n, (passes i).greaseClassic = gC.drop n)

/-- `process_events_sim_passEnv` for some per-batch inputs of which only the provenance is kept -/
theorem process_events_sim_env (E : Env) (hH : ∀ z, (E.H z).length = 64) (LOG : Nat) (x : GenRest) (s : Server)
    (sock : Gen.Sock) (buf : Bytes) (backlog : Bool) (ev : List Event) (gI gC : List Grease) (cI cC : Grease)
    (evs0 : List Nat) (toks : List Token)
    (hok : ∀ a k, sock.ok a k = true) (hfit : ∀ p ∈ sock.inq, p.1.length ≤ buf.length)
    (hpoll : x.poll.fails = false) (htoks : x.poll.ready.mapM tokenOf = some toks) (hnodup : x.poll.ready.Nodup)
    (hconn : ∀ c ∈ x.tcp.pending, c.writeOk = true ∧ c.shutOk = true) :
    ∃ passes : Nat → PassIn, FromEnv sock gI gC passes ∧
      (Gen.Server.process_events E.S E.H LOG (toGenServer x s sock buf backlog ev ⟨gI, cI⟩ ⟨gC, cC⟩) evs0).map
          (fun r => obsLoopGen r.1)
        ≃ᵣ (processEvents E (decide (LOG ≥ 4)) (loopOf x s sock backlog ev) ⟨toks, passes⟩).map (obsLoopModel x sock) :=
  ⟨fun i => PEAux.passEnv E (decide (LOG ≥ 4)) i s sock gI gC,
    fun i => PEAux.passEnv_prov E (decide (LOG ≥ 4)) i s sock gI gC,
    process_events_sim_passEnv E hH LOG x s sock buf backlog ev gI gC cI cC evs0 toks hok hfit hpoll htoks hnodup hconn⟩

theorem insSafe_of_fromEnv (sock : Gen.Sock) (gI gC : List Grease) (passes : Nat → PassIn)
    (h : FromEnv sock gI gC passes)
    (hclock : ∀ k, clockOK ((sock.clock k).secs, (sock.clock k).nanos))
    (hgI : ∀ g ∈ gI, GreaseOK g) (hgC : ∀ g ∈ gC, GreaseOK g) : InsSafe passes := by
  intro i
  obtain ⟨_, ⟨k1, h1⟩, ⟨k2, h2⟩, ⟨n1, h3⟩, ⟨n2, h4⟩⟩ := h i
  refine ⟨?_, ?_, ?_, ?_⟩
  · rw [h1]; exact hclock k1
  · rw [h2]; exact hclock k2
  · intro g hg
    rw [h3] at hg
    exact hgI g (List.mem_of_mem_drop hg)
  · intro g hg
    rw [h4] at hg
    exact hgC g (List.mem_of_mem_drop hg)

/-- C08 for the translated code: from every server state satisfying the model invariant, for every set of tokens `poll`
    reports (the health-check token only with a configured listener), every receive queue, every clock a `SystemTime`
    can produce, every drawable fault-injection decision and every log level, `process_events` — as regenerated from
    the Rust source — returns normally (no panic, no error). -/
theorem GEN_process_events_returns (E : Env) (hE : EnvOK E) (hH : ∀ z, (E.H z).length = 64) (K : Keys) (hK : K.OK)
    (LOG : Nat) (x : GenRest) (s : Server) (hs : Inv E K s) (hb : s.batchSize ≤ 2 ^ 32)
    (sock : Gen.Sock) (buf : Bytes) (backlog : Bool) (ev : List Event) (gI gC : List Grease) (cI cC : Grease)
    (evs0 : List Nat) (toks : List Token)
    (hok : ∀ a k, sock.ok a k = true) (hfit : ∀ p ∈ sock.inq, p.1.length ≤ buf.length)
    (hpoll : x.poll.fails = false) (htoks : x.poll.ready.mapM tokenOf = some toks) (hnodup : x.poll.ready.Nodup)
    (hconn : ∀ c ∈ x.tcp.pending, c.writeOk = true ∧ c.shutOk = true)
    (hclock : ∀ k, clockOK ((sock.clock k).secs, (sock.clock k).nanos))
    (hgI : ∀ g ∈ gI, GreaseOK g) (hgC : ∀ g ∈ gC, GreaseOK g)
    (hhc : 2 ∈ x.poll.ready → x.health_listener.isSome) :
    ∃ r, Gen.Server.process_events E.S E.H LOG (toGenServer x s sock buf backlog ev ⟨gI, cI⟩ ⟨gC, cC⟩) evs0 = .ok r := by
  obtain ⟨passes, hfrom, hsim⟩ :=
    process_events_sim_env E hH LOG x s sock buf backlog ev gI gC cI cC evs0 toks hok hfit hpoll htoks hnodup hconn
  have hi : InsSafe passes := insSafe_of_fromEnv sock gI gC passes hfrom hclock hgI hgC
  -- the health-check token is among the model's tokens only if mio token 2 was reported
  have hh : Token.healthCheck ∈ toks → (loopOf x s sock backlog ev).hcListener = true := fun hm =>
    hhc (PEAux.mapM_tokenOf htoks ▸ List.mem_map_of_mem (f := PEAux.tokNum) hm)
  obtain ⟨st', out, hr, _⟩ := Props.Loop.LOOP_call_safe E hE K hK (decide (LOG ≥ 4)) (loopOf x s sock backlog ev)
    hs hb ⟨toks, passes⟩ hi hh
  rw [hr] at hsim
  obtain ⟨r, hg, _⟩ := Res.map_eq_ok.mp (Res.Sim.eq_ok hsim)
  exact ⟨r, hg⟩

/-- the bound of `GEN_process_events_bounded` needs none of its assumptions on the server state, the clock, the
    fault-injection decisions or the listener: whenever the call returns, it has sent at most 16 · batch_size datagrams -/
theorem GEN_process_events_bounded_any (E : Env) (hH : ∀ z, (E.H z).length = 64)
    (LOG : Nat) (x : GenRest) (s : Server)
    (sock : Gen.Sock) (buf : Bytes) (backlog : Bool) (ev : List Event) (gI gC : List Grease) (cI cC : Grease)
    (evs0 : List Nat) (toks : List Token)
    (hok : ∀ a k, sock.ok a k = true) (hfit : ∀ p ∈ sock.inq, p.1.length ≤ buf.length)
    (hpoll : x.poll.fails = false) (htoks : x.poll.ready.mapM tokenOf = some toks) (hnodup : x.poll.ready.Nodup)
    (hconn : ∀ c ∈ x.tcp.pending, c.writeOk = true ∧ c.shutOk = true) :
    ∀ r, Gen.Server.process_events E.S E.H LOG (toGenServer x s sock buf backlog ev ⟨gI, cI⟩ ⟨gC, cC⟩) evs0 = .ok r →
      r.1.socket.out.length ≤ sock.out.length + 16 * s.batchSize := by
  intro r hr
  obtain ⟨passes, _, hsim⟩ :=
    process_events_sim_env E hH LOG x s sock buf backlog ev gI gC cI cC evs0 toks hok hfit hpoll htoks hnodup hconn
  rw [hr] at hsim
  obtain ⟨y, hm, hobs⟩ := Res.map_eq_ok.mp (Res.Sim.eq_ok hsim.symm)
  have hout : r.1.socket.out = sock.out ++ y.2.sent.map some := congrArg (fun o => o.2.1) hobs.symm
  -- the model's bound needs the tokens distinct only, not `EventsOK` (which no state `loopOf ..` satisfies with events)
  have hbound : y.2.sent.length ≤ 16 * s.batchSize :=
    (call_bounded E (decide (LOG ≥ 4)) (loopOf x s sock backlog ev) ⟨toks, passes⟩
      (PEAux.nodup_of_map_tokNum (PEAux.mapM_tokenOf htoks ▸ hnodup)) y.1 y.2 hm).2
  rw [hout, List.length_append, List.length_map]
  omega

set_option linter.unusedVariables false in
/-- C19 / C18 for the translated code: one call puts at most 16 batches' worth of replies on the wire — the number of
    datagrams sent by one `process_events` call never exceeds 16 · batch_size, whatever is queued.
    (The hypotheses `hE`, `hK`, `hs`, `hb`, `hclock`, `hgI`, `hgC`, `hhc` — under which the call does return,
    `GEN_process_events_returns` — are not needed for the bound: `GEN_process_events_bounded_any`.) -/
theorem GEN_process_events_bounded (E : Env) (hE : EnvOK E) (hH : ∀ z, (E.H z).length = 64) (K : Keys) (hK : K.OK)
    (LOG : Nat) (x : GenRest) (s : Server) (hs : Inv E K s) (hb : s.batchSize ≤ 2 ^ 32)
    (sock : Gen.Sock) (buf : Bytes) (backlog : Bool) (ev : List Event) (gI gC : List Grease) (cI cC : Grease)
    (evs0 : List Nat) (toks : List Token)
    (hok : ∀ a k, sock.ok a k = true) (hfit : ∀ p ∈ sock.inq, p.1.length ≤ buf.length)
    (hpoll : x.poll.fails = false) (htoks : x.poll.ready.mapM tokenOf = some toks) (hnodup : x.poll.ready.Nodup)
    (hconn : ∀ c ∈ x.tcp.pending, c.writeOk = true ∧ c.shutOk = true)
    (hclock : ∀ k, clockOK ((sock.clock k).secs, (sock.clock k).nanos))
    (hgI : ∀ g ∈ gI, GreaseOK g) (hgC : ∀ g ∈ gC, GreaseOK g)
    (hhc : 2 ∈ x.poll.ready → x.health_listener.isSome) :
    ∀ r, Gen.Server.process_events E.S E.H LOG (toGenServer x s sock buf backlog ev ⟨gI, cI⟩ ⟨gC, cC⟩) evs0 = .ok r →
      r.1.socket.out.length ≤ sock.out.length + 16 * s.batchSize :=
  GEN_process_events_bounded_any E hH LOG x s sock buf backlog ev gI gC cI cC evs0 toks hok hfit hpoll htoks hnodup hconn

end Rough.Props.GenLoop
