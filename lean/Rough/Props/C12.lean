import Rough.Lemmas.Request
import Rough.Props.C11
/-
  C12 — IETF requests are answered iff they name a supported version and this server.
  The reference classification `Spec.RT.classifyRequest` is written from the property text:
    must  = well-formed, draft-13 among the first four VER entries, SRV absent or ours, 32-byte NONC
    may   = same but draft-13 appears only beyond the fourth entry (the property allows either)
    no    = everything else.
-/
namespace Rough.Props.C12
open Rough Rough.Spec.RT

def versionOf : Proto → Version
  | .classic => .google
  | .draft13 => .ietf

/-- The request classifier of the implementation model agrees with the reference classification on
    every datagram and every server: `must` ⇒ accepted with exactly that nonce and protocol;
    `no` ⇒ rejected; `may` ⇒ rejected by this implementation (it inspects four entries only).
    In particular: answered ⇒ draft-13 is in the list; draft-13 among the first four (and the
    other conditions) ⇒ answered; wrong SRV or no supported version ⇒ not answered. -/
theorem C12_spec (d srv : Bytes) :
    (∀ n, classifyRequest (protoOf d) srv d = .must n →
        nonceFromRequest d srv = .ok (n, versionOf (protoOf d))) ∧
    (∀ n, classifyRequest (protoOf d) srv d = .may n → nonceFromRequest d srv = .err) ∧
    (classifyRequest (protoOf d) srv d = .no → nonceFromRequest d srv = .err) := by
  have e := Lemmas.Request.classify_eq d srv
  exact ⟨fun n h => by rw [e, h]; rfl, fun n h => by rw [e, h]; rfl, fun h => by rw [e, h]; rfl⟩

/-- answered only if the version list contains draft-13 (anywhere) and SRV, when present, is ours -/
theorem C12_only_if (d srv nonce : Bytes) (h : nonceFromRequest d srv = .ok (nonce, .ietf)) :
    ∃ body m v, unframe d = some body ∧ Spec.decode body = some m ∧ m.get Tag.VER = some v ∧
      (versionList v).contains ver13 = true ∧ (m.get Tag.SRV = none ∨ m.get Tag.SRV = some srv) ∧
      m.get Tag.NONC = some nonce ∧ nonce.length = 32 := by
  obtain ⟨_, _, _, hc, hv⟩ := Lemmas.Request.only_wellformed d srv nonce .ietf h
  cases hp : protoOf d with
  | classic => rw [hp] at hv; cases hv
  | draft13 =>
    rw [hp] at hc
    obtain ⟨-, body, m, v, h1, h2, h3, h4, h5⟩ := Lemmas.Request.must_draft13.mp hc
    exact ⟨body, m, v, h1, h2, h3, Lemmas.Request.contains_of_take h4, h5⟩

/-- the signed part of every IETF response states draft-13 as its version and lists the supported
    versions (restated from C11_fields for the IETF case) -/
theorem C12_srep_states_version (S : SigScheme) (onl : Signer) (secs nanos : Nat) (root : Bytes)
    (hroot : root.length % 4 = 0) (hsz : root.length < 2 ^ 16) :
    ∃ res onl' srepB srep, makeSrep S onl .ietf secs nanos root = .ok (res, onl') ∧
      res.get Tag.SREP = some srepB ∧ Spec.decode srepB = some srep ∧
      srep.get Tag.VER = some ver13 ∧ srep.get Tag.VERS = some ([0, 0, 0, 0] ++ ver13) :=
  have ⟨res, onl', srepB, h, hg, _, _, srep, hd, _, _, _, hv⟩ :=
    Props.C11.C11_fields S onl .ietf secs nanos root secs hroot hsz rfl
  ⟨res, onl', srepB, srep, h, hg, hd, hv rfl⟩

end Rough.Props.C12
