import Rough.Lemmas.Merkle
/-
  C04 — Merkle inclusion proofs are complete and binding for every batch shape.
  `c : MerkleCfg` is an arbitrary node hash of fixed output width; nothing is assumed about its
  security: binding is a reduction (either the claimed leaf/path are the genuine ones or an explicit
  collision / zero-preimage exists).
-/
namespace Rough.Props.C04
open Rough Rough.Merkle Rough.Spec.MT

/-- Completeness, totality and reuse in one statement: on ANY tree object whose level vector is
    non-empty (fresh, or left behind by any earlier batches), resetting, pushing a non-empty batch
    and computing the root never panics; the root is the hash of the abstract tree of the batch;
    for every position the issued path is the abstract sibling list and recomputes exactly that
    root; and the tree object is again usable. No bound on the batch size other than 2^32
    (the `assert!(level <= 32)` of get_paths). -/
theorem C04_complete (c : MerkleCfg) (ietf : Bool) (hl : HashLen c) (hw : WidthOK c ietf)
    (t : Tree) (ht : t.levels ≠ []) (leaves : List Bytes) (hne : leaves ≠ [])
    (hsz : leaves.length ≤ 2 ^ 32) :
    ∃ t' r, runBatch c ietf t leaves = .ok (t', r) ∧ t'.levels ≠ [] ∧
      r = T.hash c (treeOf leaves) ∧
      ∀ i (hi : i < leaves.length),
        getPaths t' i = .ok (pathOf c leaves i).flatten ∧
        rootFromPaths c ietf i leaves[i] (pathOf c leaves i).flatten = .ok r :=
  Lemmas.Merkle.complete c ietf hl hw t ht leaves hne hsz

/-- Reuse: the outputs (root and every path) of a batch on a reused tree object equal those on a
    fresh tree, whatever non-empty batches of at most 2^32 leaves each were processed before, in any order. -/
theorem C04_reuse (c : MerkleCfg) (ietf : Bool) (hl : HashLen c) (hw : WidthOK c ietf)
    (history : List (List Bytes)) (hh : ∀ b ∈ history, b ≠ [] ∧ b.length ≤ 2 ^ 32)
    (leaves : List Bytes) (hne : leaves ≠ []) (hsz : leaves.length ≤ 2 ^ 32) :
    ∃ tOld tNew tFresh r,
      history.foldl (fun (rt : Res Tree) b => rt.bind fun t => (runBatch c ietf t b).bind fun x => .ok x.1)
        (.ok Merkle.new) = .ok tOld ∧
      runBatch c ietf tOld leaves = .ok (tNew, r) ∧
      runBatch c ietf Merkle.new leaves = .ok (tFresh, r) ∧
      ∀ i, i < leaves.length → getPaths tNew i = getPaths tFresh i := by
  obtain ⟨tOld, hfold, hOld⟩ := Lemmas.Merkle.history_ok c ietf hl hw history (fun b hb => (hh b hb).1) Merkle.new (by simp [Merkle.new])
  obtain ⟨tNew, r, hrun, _, hr, hpaths⟩ := Lemmas.Merkle.complete c ietf hl hw tOld hOld leaves hne hsz
  obtain ⟨tFresh, r', hrun', _, hr', hpaths'⟩ :=
    Lemmas.Merkle.complete c ietf hl hw Merkle.new (by simp [Merkle.new]) leaves hne hsz
  refine ⟨tOld, tNew, tFresh, r, hfold, hrun, ?_, ?_⟩
  · rw [hr, ← hr']; exact hrun'
  · intro i hi
    rw [(hpaths i hi).1, (hpaths' i hi).1]

/-- Binding: if the verifier recomputes the root of a batch from (index, leaf, path) with an
    in-range index, then either the hash is broken (explicit collision or preimage of the zero pad
    node) or the leaf is the batch's leaf at that index and the path is exactly the issued one —
    so no changed, added or removed path element, and no other leaf, can pass. -/
theorem C04_binding (c : MerkleCfg) (ietf : Bool) (hl : HashLen c) (hw : WidthOK c ietf)
    (leaves : List Bytes) (hne : leaves ≠ []) (i' : Nat) (hi : i' < leaves.length)
    (d' p' : Bytes)
    (h : rootFromPaths c ietf i' d' p' = .ok (T.hash c (treeOf leaves))) :
    Broken c ∨ (d' = leaves[i'] ∧ p' = (pathOf c leaves i').flatten) :=
  Lemmas.Merkle.binding c ietf hl hw leaves hne i' hi d' p' h

/-- with pairwise distinct leaves, the leaf and path of position i do not verify at any other
    in-range index. -/
theorem C04_other_index (c : MerkleCfg) (ietf : Bool) (hl : HashLen c) (hw : WidthOK c ietf)
    (leaves : List Bytes) (hnd : leaves.Nodup) (i j : Nat) (hi : i < leaves.length)
    (hj : j < leaves.length) (hij : i ≠ j) (p' : Bytes)
    (h : rootFromPaths c ietf j leaves[i] p' = .ok (T.hash c (treeOf leaves))) :
    Broken c := by
  have hne : leaves ≠ [] := List.ne_nil_of_length_pos (Nat.zero_lt_of_lt hi)
  rcases Lemmas.Merkle.binding c ietf hl hw leaves hne j hj leaves[i] p' h with hb | ⟨he, _⟩
  · exact hb
  · exact absurd ((List.getElem_inj hnd).mp he) hij

/-- `compute_root` on a fresh tree, which has no leaves, panics (as the repository's tests expect). -/
theorem C04_empty_panics (c : MerkleCfg) (ietf : Bool) :
    ∃ s, computeRoot c ietf Merkle.new = .panic s := ⟨_, rfl⟩

/-- non-vacuity: a concrete 4-byte "hash" satisfies HashLen/WidthOK, so the hypotheses are satisfiable -/
example : let c : MerkleCfg := ⟨fun x => (x ++ zeros 4).take 4, 4⟩
    HashLen c ∧ WidthOK c false := by
  refine ⟨?_, ?_, ?_⟩
  · intro x; simp [zeros]
  · decide
  · intro h; cases h

end Rough.Props.C04
