import Rough.Bridge.Message
import Rough.Props.C05
import Rough.Props.C06
/-
  C05 / C06 stated directly about the codec as REGENERATED FROM /repo's RUST SOURCE on every run (`Gen.RtMessage.*`,
  Rough/Generated/Src/Message.lean): a bridge theorem of Rough/Bridge/Message.lean (generated function = model function
  up to `≃ᵣ`) composed with the model-level theorem of Props/C05.lean, Props/C06.lean.  Nothing new is proved about the
  model here, so every theorem re-checks on every run against what the code says now.
-/
namespace Rough.Props.GenCore
open Rough Rough.Bridge

/-- C05 (decode ∘ encode = id) for the translated code: for every message built through the API (strictly increasing
    tags) from 4-byte aligned values whose encoding is shorter than 2^32 bytes, the generated `RtMessage::encode`
    returns the model encoding (its internal `assert_eq!` on the size does not fire), and the generated
    `RtMessage::from_bytes` applied to those bytes returns exactly the message that was encoded. -/
theorem GEN_decode_encode (m : Msg) (hs : m.Sorted) (ha : m.Aligned) (hsz : encodedSize m < 2 ^ 32) :
    Gen.RtMessage.encode (toGen m) = .ok (encode m) ∧
    Gen.RtMessage.from_bytes (encode m) = .ok (toGen m) :=
  ⟨encode_eq m, (from_bytes_sim (encode m)).eq_ok_of_map (Props.C05.C05_decode_encode m hs ha hsz)⟩

/-- C05 (canonical encoding) for the translated code: whatever the generated `RtMessage::from_bytes` accepts is the
    image of a model message accepted by the model decoder, and — when the message is non-empty and the input is
    shorter than 2^32 bytes — the generated `RtMessage::encode` of the decoded message returns the identical input
    bytes: the decoder accepts only canonical encodings. -/
theorem GEN_encode_decode (b : Bytes) (g : Gen.RtMessage) (h : Gen.RtMessage.from_bytes b = .ok g) :
    ∃ m : Msg, g = toGen m ∧ fromBytes b = .ok m ∧
      (g.tags ≠ [] → b.length < 2 ^ 32 → Gen.RtMessage.encode g = .ok b) := by
  obtain ⟨m, hm, rfl⟩ := (from_bytes_sim b).of_eq_ok_map h
  refine ⟨m, rfl, hm, fun hne hlen => ?_⟩
  rw [encode_eq, Props.C05.C05_encode_decode b m hm (fields_ne_nil_of_toGen hne) hlen]

/-- C05 (framing) for the translated code: the generated `RtMessage::encode_framed` returns the 8-byte magic
    "ROUGHTIM", the little-endian length of the encoding, and the encoding — 12 bytes more than the encoding. -/
theorem GEN_encode_framed (m : Msg) :
    Gen.RtMessage.encode_framed (toGen m) = .ok (Rough.strBytes "ROUGHTIM" ++ le32 (encode m).length ++ encode m) ∧
    (Rough.strBytes "ROUGHTIM" ++ le32 (encode m).length ++ encode m).length = 12 + (encode m).length := by
  obtain ⟨h1, h2⟩ := Props.C05.C05_framed m
  rw [← h1]
  exact ⟨encode_framed_eq m, h2⟩

/-- C05 (size) for the translated code: the generated `RtMessage::encoded_size` is the length of what the generated
    `RtMessage::encode` returns. -/
theorem GEN_encoded_size (m : Msg) :
    ∃ out, Gen.RtMessage.encode (toGen m) = .ok out ∧ Gen.RtMessage.encoded_size (toGen m) = .ok out.length :=
  ⟨encode m, encode_eq m, by rw [encoded_size_eq, Props.C05.C05_encoded_size]⟩

/-- C06 (totality) for the translated code: on every byte string, of any length, the generated
    `RtMessage::from_bytes` returns a message or an error — it never panics (no out-of-bounds slice or index, no
    arithmetic underflow, no failed `unwrap`). -/
theorem GEN_from_bytes_total (b : Bytes) (s : String) : Gen.RtMessage.from_bytes b ≠ .panic s :=
  Res.ne_panic_of_isPanic (from_bytes_no_panic b) s

/-- C06 (payload) for the translated code: the values of a non-empty message accepted by the generated
    `RtMessage::from_bytes`, concatenated in order, are exactly the input bytes after the 8·n-byte header (n = number
    of fields): nothing invented, nothing read past the end. -/
theorem GEN_payload (b : Bytes) (g : Gen.RtMessage) (h : Gen.RtMessage.from_bytes b = .ok g) (hne : g.tags ≠ []) :
    8 * g.tags.length ≤ b.length ∧ g.values.flatten = b.drop (8 * g.tags.length) := by
  obtain ⟨m, hm, rfl⟩ := (from_bytes_sim b).of_eq_ok_map h
  rw [show (toGen m).tags.length = m.fields.length from Lemmas.tags_length m]
  exact Props.C06.C06_payload b m hm (fields_ne_nil_of_toGen hne)

end Rough.Props.GenCore
