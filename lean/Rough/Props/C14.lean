import Rough.Lemmas.Envelope
/-
  C14 — envelope-encrypted seed: round-trips, detects tampering, leaks nothing.
  `A : Aead` and `K : Kms` are arbitrary (both may fail). Nothing is assumed about their security:
  the tampering theorems are reductions that exhibit what the attacker must have achieved.
-/
namespace Rough.Props.C14
open Rough Rough.Envelope

/-- Round trip for every seed of at least 32 bytes, every provider whose unwrap inverts its wrap on
    this key, every wrapped-key length below 2^16 (in particular 16..=1024). -/
theorem C14_round_trip (K : Kms) (A : Aead) (hA : A.Correct)
    (hlen : ∀ k n ad pt ct, A.sealF k n ad pt = some ct → ct.length = pt.length + 16)
    (dek nonce seed w : Bytes) (hd : dek.length = 32) (hn : nonce.length = 12)
    (hw : K.wrap dek = some w) (hu : K.unwrap w = some dek) (hwl : w.length < 2 ^ 16)
    (hs : 32 ≤ seed.length) :
    ∃ blob, encrypt K A dek nonce seed = .ok blob ∧ decrypt K A blob = .ok seed := by
  obtain ⟨ct, hseal, hopen⟩ := hA dek nonce AD seed hd hn
  have hcl := hlen _ _ _ _ _ hseal
  have hM : MIN_PAYLOAD_SIZE = 64 := rfl
  refine ⟨layout w nonce ct, ?_, ?_⟩
  · unfold encrypt; simp only [hseal, hw]
  · have hp := Lemmas.Envelope.parse_layout w nonce ct hn hwl (by omega)
    exact Lemmas.Envelope.decrypt_of_open hp hu hd hopen

/-- parsing inverts the layout -/
theorem C14_parse_layout (w nonce ct : Bytes) (hn : nonce.length = 12) (hwl : w.length < 2 ^ 16)
    (hmin : MIN_PAYLOAD_SIZE ≤ 4 + w.length + 12 + ct.length) :
    parse (layout w nonce ct) = some (w, nonce, ct) :=
  Lemmas.Envelope.parse_layout w nonce ct hn hwl hmin

/-- … and the layout inverts parsing: a blob is determined by its three components (so two
    different blobs differ in the wrapped key, the nonce or the ciphertext). -/
theorem C14_parse_injective (b b' : Bytes) (x : Bytes × Bytes × Bytes)
    (h : parse b = some x) (h' : parse b' = some x) : b = b' := by
  obtain ⟨w, n, ct⟩ := x
  rw [(Lemmas.Envelope.layout_of_parse h).1, (Lemmas.Envelope.layout_of_parse h').1]

/-- Tamper evidence as a reduction: if ANY blob different from the honest one decrypts successfully,
    then its (wrapped key, nonce, ciphertext) triple differs from the honest triple, the provider
    unwrapped that wrapped key to a 32-byte key, and the AEAD opened that ciphertext under that key
    and nonce — i.e. the attacker holds an AEAD forgery or the provider is malleable. Covers every
    modification, truncation and extension at once. -/
theorem C14_tamper (K : Kms) (A : Aead) (w nonce ct : Bytes) (hn : nonce.length = 12) (hwl : w.length < 2 ^ 16)
    (hmin : MIN_PAYLOAD_SIZE ≤ 4 + w.length + 12 + ct.length)
    (blob' p' : Bytes) (hne : blob' ≠ layout w nonce ct) (hdec : decrypt K A blob' = .ok p') :
    ∃ w' n' c' dek', parse blob' = some (w', n', c') ∧ (w', n', c') ≠ (w, nonce, ct) ∧
      K.unwrap w' = some dek' ∧ dek'.length = 32 ∧ A.openF dek' n' AD c' = some p' :=
  Lemmas.Envelope.tamper K A w nonce ct hn hwl hmin blob' p' hne hdec

/-- A provider returning a different data key: success would be an AEAD opening of the honest
    ciphertext under that other key (a forgery); a key of the wrong length is always an error. -/
theorem C14_wrong_key (K' : Kms) (A : Aead) (w nonce ct dek' : Bytes) (hn : nonce.length = 12)
    (hwl : w.length < 2 ^ 16) (hmin : MIN_PAYLOAD_SIZE ≤ 4 + w.length + 12 + ct.length)
    (hu : K'.unwrap w = some dek') :
    (dek'.length ≠ 32 → decrypt K' A (layout w nonce ct) = .err) ∧
    (∀ p, decrypt K' A (layout w nonce ct) = .ok p → A.openF dek' nonce AD ct = some p) := by
  have hp := Lemmas.Envelope.parse_layout w nonce ct hn hwl hmin
  constructor
  · intro hl
    exact Lemmas.Envelope.decrypt_err_of_len hp hu hl
  · intro p hdec
    obtain ⟨w2, n2, c2, dek2, hp2, hu2, _, ho⟩ := Lemmas.Envelope.decrypt_ok hdec
    rw [hp] at hp2
    simp only [Option.some.injEq, Prod.mk.injEq] at hp2
    obtain ⟨rfl, rfl, rfl⟩ := hp2
    rw [hu] at hu2
    cases hu2
    exact ho

/-- the blob is exactly le16 |wrapped| ‖ le16 12 ‖ wrapped ‖ nonce ‖ AEAD output: neither the seed nor
    the data key is an input of the layout (they enter only through the provider and the AEAD);
    a failing provider or AEAD makes encryption fail. -/
theorem C14_layout (K : Kms) (A : Aead) (dek nonce seed b : Bytes) (h : encrypt K A dek nonce seed = .ok b) :
    ∃ w ct, K.wrap dek = some w ∧ A.sealF dek nonce AD seed = some ct ∧ b = layout w nonce ct := by
  unfold encrypt at h
  split at h
  · cases h
  rename_i ct hs
  split at h
  · cases h
  rename_i w hw
  cases h
  exact ⟨w, ct, hw, hs, rfl⟩

end Rough.Props.C14
