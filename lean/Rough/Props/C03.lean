import Rough.Lemmas.ClientRequest
import Rough.Lemmas.ClientAccept
/-
  C03 — the project's own client accepts every honest response and prints its midpoint.
-/
namespace Rough.Props.C03
open Rough Rough.Spec Rough.ServerSpec

/-- the requests the client generates are 1024 bytes (classic) / 1024 + 12 bytes of RFC frame
    (draft-13), hence inside the server's 1024..1500 window, and are classified `must` by the
    reference classification of a server whose key is the pinned one (or any server if no key) -/
theorem C03_request_wellformed (H : Bytes → Bytes) (hH : ∀ x, (H x).length = 64) (ver : Version)
    (nonce : Bytes) (hn : nonce.length = ver.nonceLen) (pk? : Option Bytes)
    (hpk : ∀ pk, pk? = some pk → pk.length = 32) (srv : Bytes)
    (hsrv : ∀ pk, pk? = some pk → srv = (H ((0xff : UInt8) :: pk)).take 32) :
    ∃ req, Client.makeRequest H ver nonce pk? = .ok req ∧
      req.length = (match ver with | .google => 1024 | .ietf => 1036) ∧
      RT.classifyRequest (protoOfVer ver) srv req = .must nonce ∧ RT.protoOf req = protoOfVer ver :=
  Lemmas.Client.request_wellformed H hH ver nonce hn pk? srv hsrv

/-- Completeness: the reference responder's reply for ANY batch (1..2^32 leaves) in which the
    client's request sits at ANY position i is accepted, with or without the pinned key; the outcome
    is exactly (signed midpoint, signed radius, verified = key supplied, index = i). -/
theorem C03_accept (S : SigScheme) (hS : S.Correct) (hv : ∀ seed, S.pkValid (S.pk seed) = true)
    (H : Bytes → Bytes) (hH : ∀ x, (H x).length = 64)
    (hsig : ∀ seed m, (S.sign seed m).length = 64) (hpk : ∀ seed, (S.pk seed).length = 32)
    (ver : Version) (ltSeed onlSeed : Bytes) (hlt : ltSeed.length = 32) (hon : onlSeed.length = 32)
    (midp radi : Nat) (hm : midp < 2 ^ 64) (hr : radi < 2 ^ 32)
    (leaves : List Bytes) (i : Nat) (hi : i < leaves.length) (hn : leaves.length ≤ 2 ^ 32)
    (request nonce : Bytes) (hnl : nonce.length = ver.nonceLen)
    (hleaf : leaves[i] = (match ver with | .google => nonce | .ietf => request))
    (pk? : Option Bytes) (hk : pk? = none ∨ pk? = some (S.pk ltSeed)) :
    Client.handleResponse S H ver pk? nonce request
      (RT.respond S H (protoOfVer ver) ltSeed onlSeed midp radi 0 (2 ^ 64 - 1) leaves i nonce)
      = .ok ⟨midp, radi, pk?.isSome, i⟩ :=
  Lemmas.Client.accept S hS hv H hH hsig hpk ver ltSeed onlSeed hlt hon midp radi hm hr leaves i hi hn
    request nonce hnl hleaf pk? hk

/-- the printed time is exactly the signed midpoint converted from the protocol's unit -/
theorem C03_time (m : Nat) :
    Client.printedTime .google m = (m / 1000000, (m % 1000000) * 1000) ∧
    Client.printedTime .ietf m = (m, 0) := by
  refine ⟨?_, rfl⟩
  rw [Nat.mod_def, Nat.mul_comm 1000000]
  rfl

end Rough.Props.C03
