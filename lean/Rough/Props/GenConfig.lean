import Rough.Bridge.ConfigLoaders
import Rough.Bridge.Config
import Rough.Props.C16
/-
  C16 stated directly about the Lean code REGENERATED FROM /repo's RUST SOURCE on every run: the two configuration
  loaders (`Gen.FileConfig.new`, `Gen.EnvironmentConfig.new`), the `ServerConfig` getters of both structs and the
  validator (`Gen.is_valid_config`), composed the way `main` composes them (load; refuse on Err / panic; validate; refuse
  on false / panic) — obtained from the bridge theorems and the model-level theorems of Props/C16.lean.
  (`main`'s own wiring is exercised by the real-binary stage of the C16 check, not translated.)
-/
namespace Rough.Props.GenConfig
open Rough Rough.Bridge Rough.Config

/-- the `Box<dyn ServerConfig>` view of a loaded `FileConfig`: every getter of the trait, as translated from file.rs -/
theorem file_getters (g : Gen.FileConfig) :
    Gen.FileConfig.port_fn g = .ok (cfgOfFile g).port ∧ Gen.FileConfig.interface_fn g = .ok (cfgOfFile g).interface ∧
    Gen.FileConfig.seed_fn g = .ok (cfgOfFile g).seed ∧ Gen.FileConfig.batch_size_fn g = .ok (cfgOfFile g).batchSize ∧
    (Gen.FileConfig.status_interval_fn g).map (·.secs) = .ok (cfgOfFile g).statusInterval ∧
    Gen.FileConfig.kms_protection_fn g = .ok (cfgOfFile g).kmsPlain ∧
    Gen.FileConfig.health_check_port_fn g = .ok (cfgOfFile g).hcPort ∧
    Gen.FileConfig.client_stats_enabled g = .ok (cfgOfFile g).clientStats ∧
    Gen.FileConfig.persistence_directory g = .ok (cfgOfFile g).persistDir ∧
    Gen.FileConfig.fault_percentage_fn g = .ok (cfgOfFile g).faultPct ∧
    Gen.FileConfig.num_workers_fn g = .ok (cfgOfFile g).numWorkers := by
  refine ⟨rfl, rfl, rfl, rfl, rfl, rfl, rfl, rfl, rfl, rfl, rfl⟩

/-- the getters of a loaded `EnvironmentConfig` return the fields of the configuration it stands for (`cfgOfEnv`) -/
theorem env_getters (g : Gen.EnvironmentConfig) :
    Gen.EnvironmentConfig.port_fn g = .ok (cfgOfEnv g).port ∧ Gen.EnvironmentConfig.interface_fn g = .ok (cfgOfEnv g).interface ∧
    Gen.EnvironmentConfig.seed_fn g = .ok (cfgOfEnv g).seed ∧ Gen.EnvironmentConfig.batch_size_fn g = .ok (cfgOfEnv g).batchSize ∧
    (Gen.EnvironmentConfig.status_interval_fn g).map (·.secs) = .ok (cfgOfEnv g).statusInterval ∧
    Gen.EnvironmentConfig.kms_protection_fn g = .ok (cfgOfEnv g).kmsPlain ∧
    Gen.EnvironmentConfig.health_check_port_fn g = .ok (cfgOfEnv g).hcPort ∧
    Gen.EnvironmentConfig.client_stats_enabled g = .ok (cfgOfEnv g).clientStats ∧
    Gen.EnvironmentConfig.persistence_directory g = .ok (cfgOfEnv g).persistDir ∧
    Gen.EnvironmentConfig.fault_percentage_fn g = .ok (cfgOfEnv g).faultPct ∧
    Gen.EnvironmentConfig.num_workers_fn g = .ok (cfgOfEnv g).numWorkers := by
  refine ⟨rfl, rfl, rfl, rfl, rfl, rfl, rfl, rfl, rfl, rfl, rfl⟩

/-- start-up from a YAML file as the translated code performs it: `FileConfig::new`, then `is_valid_config` on the
    loaded configuration; `none` = refused (Err, panic, or validation false) -/
def genStartFile (fs : Gen.Fs) (doc : List (String × String)) (ncpu : Nat) (path : String) : Option Cfg :=
  match Gen.FileConfig.new [doc] ncpu path with
  | .ok g => if Gen.is_valid_config fs (cfgOfFile g) = .ok true then some (cfgOfFile g) else none
  | _ => none

/-- start-up from the process environment as the translated code performs it -/
def genStartEnv (fs : Gen.Fs) (env : List (String × String)) (ncpu : Nat) : Option Cfg :=
  match Gen.EnvironmentConfig.new env ncpu with
  | .ok g => if Gen.is_valid_config fs (cfgOfEnv g) = .ok true then some (cfgOfEnv g) else none
  | _ => none

theorem isValid_eraseKms (fs : FsFacts) (c : Cfg) : isValid fs (eraseKms c) = isValid fs c := rfl

theorem get_eraseKms (c : Cfg) (k : IntKey) : (eraseKms c).get k = c.get k := by
  cases k <;> rfl

theorem genStartFile_eq (fs : Gen.Fs) (doc : List (String × String)) (ncpu : Nat) (path : String) :
    genStartFile fs doc ncpu path = (Gen.FileConfig.new [doc] ncpu path).toOption.bind fun g =>
      if Gen.is_valid_config fs (cfgOfFile g) = .ok true then some (cfgOfFile g) else none := by
  unfold genStartFile
  cases Gen.FileConfig.new [doc] ncpu path <;> rfl

theorem genStartEnv_eq (fs : Gen.Fs) (env : List (String × String)) (ncpu : Nat) :
    genStartEnv fs env ncpu = (Gen.EnvironmentConfig.new env ncpu).toOption.bind fun g =>
      if Gen.is_valid_config fs (cfgOfEnv g) = .ok true then some (cfgOfEnv g) else none := by
  unfold genStartEnv
  cases Gen.EnvironmentConfig.new env ncpu <;> rfl

/-- load-then-validate in the translated code against the model's, from the loader's bridge equation (`ro` is the
    loader's outcome up to refusal) -/
theorem start_aux {γ : Type} (fs : Gen.Fs) (ro : Option γ) (o : Option Cfg) (f : γ → Cfg)
    (hb : ro.map f = o.map eraseKms) :
    (ro.bind fun g => if Gen.is_valid_config fs (f g) = .ok true then some (f g) else none) =
      (o.bind fun c => if isValid (fsOf fs) c then some c else none).map eraseKms := by
  cases ro with
  | none => cases o with
    | none => rfl
    | some c => cases hb
  | some g => cases o with
    | none => cases hb
    | some c =>
      have hg : f g = eraseKms c := Option.some.inj hb
      simp only [Option.bind_some, hg, is_valid_config_true_iff, isValid_eraseKms]
      cases isValid (fsOf fs) c <;> rfl

theorem entriesOfEnv_keys_nodup (env : List (String × String)) : ((entriesOfEnv env).map (·.1)).Nodup := by
  have hsub : ((entriesOfEnv env).map (·.1)).Sublist (envKeys.map (·.1)) := by
    unfold entriesOfEnv
    generalize envKeys = l
    induction l with
    | nil => exact List.Sublist.refl _
    | cons kn l ih =>
      rw [List.filterMap_cons]
      cases env.find? (fun kv => kv.1 == kn.2) with
      | none => exact List.Sublist.cons _ ih
      | some kv => exact List.Sublist.cons_cons _ ih
  exact List.Nodup.sublist hsub (by decide)

/-- with key scalars that resolve to YAML strings in any spelling (quoted or plain; `rk` names what they resolve to),
    the translated file start-up IS the model's `start … .file` on the entries under their resolved keys -/
theorem GEN_start_file_resolved (fs : Gen.Fs) (doc : List (String × String)) (ncpu : Nat) (path : String) (hne : doc ≠ [])
    (rk : String → String) (hkeys : ∀ kv ∈ doc, yamlStr kv.1 = some (rk kv.1)) :
    genStartFile fs doc ncpu path =
      (start (fsOf fs) { numWorkers := ncpu } .file (doc.map fun kv => (rk kv.1, kv.2))).map eraseKms := by
  rw [genStartFile_eq]
  exact start_aux fs _ _ cfgOfFile (file_config_new_eq_resolved doc ncpu path hne rk hkeys)

/-- `GEN_start_file_resolved` with keys that are plain words, which resolve to themselves (at least one entry) -/
theorem GEN_start_file (fs : Gen.Fs) (doc : List (String × String)) (ncpu : Nat) (path : String) (hne : doc ≠ [])
    (hkeys : ∀ kv ∈ doc, yamlStr kv.1 = some kv.1) :
    genStartFile fs doc ncpu path = (start (fsOf fs) { numWorkers := ncpu } .file doc).map eraseKms := by
  have := GEN_start_file_resolved fs doc ncpu path hne id hkeys
  rwa [show (doc.map fun kv => (id kv.1, kv.2)) = doc from List.map_id _] at this

/-- the translated environment start-up IS the model's `start … .env` on the settings present (values the harness's
    un-quoting leaves alone) -/
theorem GEN_start_env (fs : Gen.Fs) (env : List (String × String)) (ncpu : Nat)
    (hq : ∀ kv ∈ entriesOfEnv env, unquote kv.2 = kv.2) :
    genStartEnv fs env ncpu = (start (fsOf fs) { numWorkers := ncpu } .env (entriesOfEnv env)).map eraseKms := by
  rw [genStartEnv_eq]
  exact start_aux fs _ _ cfgOfEnv (loadEnv_raw _ _ hq ▸ env_config_new_eq env ncpu)

theorem resolved_entries {doc : List (String × String)} {rk : String → String} {k : IntKey} {v : Int} {kq : String}
    (hnd : (doc.map fun kv => rk kv.1).Nodup) (hkq : rk kq = k.name) (hmem : (kq, showInt v) ∈ doc) :
    ((doc.map fun kv => (rk kv.1, kv.2)).map (·.1)).Nodup ∧
      (k.name, showInt v) ∈ doc.map fun kv => (rk kv.1, kv.2) :=
  ⟨by rw [List.map_map]; exact hnd, List.mem_map.mpr ⟨(kq, showInt v), hmem, by simp only [hkq]⟩⟩

/-- C16 "never silently replaced", for the translated file loader + validator: if start-up succeeds from a file in which
    an integer setting is written once (decimal) with value v under a key scalar `kq` that RESOLVES to the setting's name
    (so `"batch_size": 7` counts; no two entries resolve to one key), the value the server runs with IS v -/
theorem GEN_file_effective_is_written_resolved (fs : Gen.Fs) (doc : List (String × String)) (ncpu : Nat) (path : String)
    (rk : String → String) (hkeys : ∀ kv ∈ doc, yamlStr kv.1 = some (rk kv.1))
    (hnd : (doc.map fun kv => rk kv.1).Nodup) (k : IntKey) (v : Int) (kq : String) (hkq : rk kq = k.name)
    (hmem : (kq, showInt v) ∈ doc) (c : Cfg) (h : genStartFile fs doc ncpu path = some c) :
    c.get k = some v.toNat ∧ 0 ≤ v := by
  rw [GEN_start_file_resolved fs doc ncpu path (List.ne_nil_of_mem hmem) rk hkeys] at h
  obtain ⟨c', hc', rfl⟩ := Option.map_eq_some_iff.mp h
  obtain ⟨hnd', hmem'⟩ := resolved_entries hnd hkq hmem
  rw [get_eraseKms]
  exact C16.C16_effective_is_written _ _ _ _ hnd' k v hmem' c' hc'

/-- C16 "out of range ⇒ start-up fails", for the translated file loader + validator, key scalars in any string spelling -/
theorem GEN_file_out_of_range_refused_resolved (fs : Gen.Fs) (doc : List (String × String)) (ncpu : Nat) (path : String)
    (rk : String → String) (hkeys : ∀ kv ∈ doc, yamlStr kv.1 = some (rk kv.1))
    (hnd : (doc.map fun kv => rk kv.1).Nodup) (k : IntKey) (v : Int) (kq : String) (hkq : rk kq = k.name)
    (hmem : (kq, showInt v) ∈ doc) (hout : ¬ k.documented v) :
    genStartFile fs doc ncpu path = none := by
  obtain ⟨hnd', hmem'⟩ := resolved_entries hnd hkq hmem
  rw [GEN_start_file_resolved fs doc ncpu path (List.ne_nil_of_mem hmem) rk hkeys,
    C16.C16_out_of_range_refused _ _ _ _ hnd' k v hmem' hout]
  rfl

/-- C16 "never silently replaced" for the translated file loader + validator, with keys that are plain words -/
theorem GEN_file_effective_is_written (fs : Gen.Fs) (doc : List (String × String)) (ncpu : Nat) (path : String)
    (hkeys : ∀ kv ∈ doc, yamlStr kv.1 = some kv.1) (hnd : (doc.map (·.1)).Nodup) (k : IntKey) (v : Int)
    (hmem : (k.name, showInt v) ∈ doc) (c : Cfg) (h : genStartFile fs doc ncpu path = some c) :
    c.get k = some v.toNat ∧ 0 ≤ v :=
  GEN_file_effective_is_written_resolved fs doc ncpu path id hkeys hnd k v _ rfl hmem c h

/-- C16 "out of range ⇒ start-up fails" for the translated file loader + validator, with keys that are plain words -/
theorem GEN_file_out_of_range_refused (fs : Gen.Fs) (doc : List (String × String)) (ncpu : Nat) (path : String)
    (hkeys : ∀ kv ∈ doc, yamlStr kv.1 = some kv.1) (hnd : (doc.map (·.1)).Nodup) (k : IntKey) (v : Int)
    (hmem : (k.name, showInt v) ∈ doc) (hout : ¬ k.documented v) :
    genStartFile fs doc ncpu path = none :=
  GEN_file_out_of_range_refused_resolved fs doc ncpu path id hkeys hnd k v _ rfl hmem hout

/-- non-vacuity of the resolved form: a quoted `"batch_size"` key with the out-of-range value 0 -/
example (fs : Gen.Fs) : genStartFile fs [("\"batch_size\"", showInt 0)] 1 "" = none :=
  GEN_file_out_of_range_refused_resolved fs _ 1 "" (fun _ => "batch_size")
    (by intro kv h; rw [List.mem_singleton.mp h]; decide) (by simp) .batchSize 0 "\"batch_size\"" rfl
    (List.mem_singleton.mpr rfl) (by simp [IntKey.documented])

/-- C16 "a missing required setting ⇒ start-up fails", for the translated environment loader + validator -/
theorem GEN_env_missing_required (fs : Gen.Fs) (env : List (String × String)) (ncpu : Nat)
    (hq : ∀ kv ∈ entriesOfEnv env, unquote kv.2 = kv.2)
    (req : String) (hreq : req = "port" ∨ req = "interface" ∨ req = "seed")
    (hmiss : ∀ kv ∈ entriesOfEnv env, kv.1 ≠ req) :
    genStartEnv fs env ncpu = none := by
  rw [GEN_start_env fs env ncpu hq, C16.C16_missing_required _ _ _ req hreq hmiss ncpu]
  rfl

/-- C16 "out of range ⇒ start-up fails", for the translated environment loader + validator -/
theorem GEN_env_out_of_range_refused (fs : Gen.Fs) (env : List (String × String)) (ncpu : Nat)
    (hq : ∀ kv ∈ entriesOfEnv env, unquote kv.2 = kv.2) (k : IntKey) (v : Int)
    (hmem : (k.name, showInt v) ∈ entriesOfEnv env) (hout : ¬ k.documented v) :
    genStartEnv fs env ncpu = none := by
  rw [GEN_start_env fs env ncpu hq,
    C16.C16_out_of_range_refused _ _ _ _ (entriesOfEnv_keys_nodup env) k v hmem hout]
  rfl

end Rough.Props.GenConfig
