import Rough.Lemmas.Keys
/-
  C20 — the long-term seed never appears in anything the server emits (partial).
  Theorem part: non-interference. Everything a server ever sends is a function of the seed's
  *public interface* (public key and the two certificate signatures): two seeds with the same
  interface give byte-identical outputs for every input history, clock, grease draw and log level.
  That those 32+64+64 bytes do not themselves reveal the seed is a property of Ed25519, not provable
  here; log records are not modelled. Both gaps are covered only by the run-time monitor.
-/
namespace Rough.Props.C20
open Rough

/-- the public interface of a seed for given online keys -/
def Iface (E : Env) (seed onlI onlC : Bytes) : Bytes × Bytes × Bytes :=
  (E.S.pk seed,
   E.S.sign seed (Version.ietf.delePrefix ++ encode ⟨[(Tag.PUBK, E.S.pk onlI), (Tag.MINT, zeros 8), (Tag.MAXT, List.replicate 8 0xff)]⟩),
   E.S.sign seed (Version.google.delePrefix ++ encode ⟨[(Tag.PUBK, E.S.pk onlC), (Tag.MINT, zeros 8), (Tag.MAXT, List.replicate 8 0xff)]⟩))

/-- the server state (which never stores the seed) is determined by the interface -/
theorem C20_factor (E : Env) (seed seed' onlI onlC : Bytes) (b : Nat)
    (h32 : seed.length = 32) (h32' : seed'.length = 32)
    (hi : Iface E seed onlI onlC = Iface E seed' onlI onlC) :
    Server.new E seed onlI onlC b = Server.new E seed' onlI onlC b := by
  simp only [Iface, Lemmas.Shape.zeros8, Lemmas.Shape.ones8, Prod.mk.injEq] at hi
  obtain ⟨hpk, hsI, hsC⟩ := hi
  have e : Lemmas.Keys.serverOf E seed onlI onlC b = Lemmas.Keys.serverOf E seed' onlI onlC b := by
    funext srv
    simp only [Lemmas.Keys.serverOf, Lemmas.Keys.certOf, Lemmas.Shape.deleM, List.nil_append, hpk, hsI, hsC]
  rw [Lemmas.Keys.server_new_eq, Lemmas.Keys.server_new_eq, Lemmas.Keys.fromSeed_eq_ok.mpr ⟨h32, rfl⟩,
    Lemmas.Keys.fromSeed_eq_ok.mpr ⟨h32', rfl⟩, hpk, e]
  rfl

/-- non-interference for every run -/
theorem C20_noninterference (E : Env) (seed seed' onlI onlC : Bytes) (b : Nat) (debug : Bool)
    (passes : List Server.Pass) (h32 : seed.length = 32) (h32' : seed'.length = 32)
    (hi : Iface E seed onlI onlC = Iface E seed' onlI onlC) :
    (Server.new E seed onlI onlC b).bind (fun s => Server.run E debug s passes) =
    (Server.new E seed' onlI onlC b).bind (fun s => Server.run E debug s passes) := by
  rw [C20_factor E seed seed' onlI onlC b h32 h32' hi]

end Rough.Props.C20
