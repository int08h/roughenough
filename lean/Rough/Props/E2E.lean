import Rough.Lemmas.E2E
import Rough.Lemmas.Loop
/-
  End-to-end composition of the client model and the server model (C01/C02/C03/C09 together):
  whatever else is in the batch, a request generated by the project's client and read by a server in
  any reachable state is answered, to its source, with a datagram that the client accepts, and the
  client reports exactly the server's clock reading in the protocol's unit and the 5 s radius.
-/
namespace Rough.Props.E2E
open Rough Rough.ServerSpec Rough.Spec

theorem E2E_client_server (E : Env) (hE : EnvOK E) (hS : E.S.Correct)
    (hv : ∀ seed, E.S.pkValid (E.S.pk seed) = true) (K : Keys) (hK : K.OK) (debug : Bool)
    (s : Server) (hs : Inv E K s) (hb : s.batchSize ≤ 2 ^ 32) (p : Server.Pass) (hp : PassOK p)
    (ver : Version) (nonce : Bytes) (hn : nonce.length = ver.nonceLen)
    (pk? : Option Bytes) (hk : pk? = none ∨ pk? = some (E.S.pk K.seed))
    (req : Bytes) (hreq : Client.makeRequest E.H ver nonce pk? = .ok req)
    (d : Datagram) (hd : d.bytes = req) (hmem : d ∈ p.chunk.take s.batchSize) :
    ∃ s' sent ev, Server.pass E debug s p = .ok (s', sent, ev) ∧
      ∃ x ∈ sent, x.dst = d.src ∧
        ∃ idx, Client.handleResponse E.S E.H ver pk? nonce req x.bytes =
          .ok ⟨midpVal ver (match ver with | .ietf => p.nowIetf | .google => p.nowClassic), radiOf ver, pk?.isSome, idx⟩ := by
  subst hd
  obtain ⟨s', hpass, _⟩ := Lemmas.ServerSpec.pass_spec E hE K debug s hs hb p hp
  obtain ⟨x, hx, hdst, idx, hresp⟩ := Lemmas.E2E.client_reply E hE hS hv K hK s hs hb p hp ver nonce hn pk? hk d hreq hmem
  refine ⟨s', _, _, hpass, x, hx, hdst, idx, ?_⟩
  cases ver <;> exact hresp

/-- the same through the whole event loop: a client request queued among the first 16·batch_size
    datagrams of a live worker is answered acceptably within the next call -/
theorem E2E_client_loop (E : Env) (hE : EnvOK E) (hS : E.S.Correct)
    (hv : ∀ seed, E.S.pkValid (E.S.pk seed) = true) (K : Keys) (hK : K.OK) (debug : Bool)
    (st : EventLoop.Loop) (hs : Inv E K st.srv) (hb : st.srv.batchSize ≤ 2 ^ 32) (hB : 0 < st.srv.batchSize)
    (hl : LoopSpec.Live st) (c : EventLoop.CallIn) (he : EventLoop.EventsOK st c)
    (hi : LoopSpec.InsOK c.passes) (hq : LoopSpec.Quiet c.passes)
    (ver : Version) (nonce : Bytes) (hn : nonce.length = ver.nonceLen)
    (pk? : Option Bytes) (hk : pk? = none ∨ pk? = some (E.S.pk K.seed))
    (req : Bytes) (hreq : Client.makeRequest E.H ver nonce pk? = .ok req)
    (d : Datagram) (hd : d.bytes = req) (hmem : d ∈ st.sockQ.take (16 * st.srv.batchSize)) :
    ∃ st' out, EventLoop.processEvents E debug st c = .ok (st', out) ∧
      ∃ x ∈ out.sent, x.dst = d.src ∧
        ∃ midp idx, Client.handleResponse E.S E.H ver pk? nonce req x.bytes = .ok ⟨midp, radiOf ver, pk?.isSome, idx⟩ := by
  subst hd
  obtain ⟨st', out, hrun, hsent, hchunks, _⟩ := Lemmas.Loop.call_progress E hE K debug st hs hb hl c he hi hq
  -- the request is in one of the batches of the call, and that batch is answered by the reference responder
  rw [← hchunks] at hmem
  obtain ⟨p, hp, hdp⟩ := List.mem_flatMap.mp hmem
  have hbd := (Lemmas.Loop.plan_bounded st.srv.batchSize 16 st.sockQ c.passes).2.1 p hp
  obtain ⟨x, hx, hdst, idx, hresp⟩ := Lemmas.E2E.client_reply E hE hS hv K hK st.srv hs hb p
    (Lemmas.Loop.plan_passes_all st.srv.batchSize 16 st.sockQ c.passes (fun i _ => hi i) p hp) ver nonce hn pk? hk d hreq
    (by rw [List.take_of_length_le hbd]; exact hdp)
  exact ⟨st', out, hrun, x, hsent ▸ List.mem_flatMap.mpr ⟨p, hp, hx⟩, hdst, _, idx, hresp⟩

end Rough.Props.E2E
