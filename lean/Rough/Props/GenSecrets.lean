import Rough.Props.GenWorkers
import Rough.Props.C20
/-
  C20 (theorem part) stated about the constructors as REGENERATED from /repo's Rust source: the two responders that
  `Server::new` keeps — everything of the key material that lives on in a worker — are a function of the seed's public
  interface (public key and the two certificate signatures). Composition of `server_responders_sim` with `C20_factor`.
-/
namespace Rough.Props.GenCore
open Rough Rough.Bridge

/-- C20: two seeds with the same public interface (same public key, same two certificate signatures) yield identical
    responders — the state a worker keeps holds nothing else of the seed -/
theorem GEN_responders_factor (E : Env) (seed seed' onlI onlC : Bytes) (b : Nat) (gqI gqC : List Grease)
    (cfg : Config.Cfg) (h32 : seed.length = 32) (h32' : seed'.length = 32)
    (hi : Props.C20.Iface E seed onlI onlC = Props.C20.Iface E seed' onlI onlC) :
    genResponders E seed onlI onlC gqI gqC cfg ≃ᵣ genResponders E seed' onlI onlC gqI gqC cfg := by
  have e := Props.C20.C20_factor E seed seed' onlI onlC b h32 h32' hi
  have k1 := genResponders_sim E seed onlI onlC b gqI gqC cfg
  rw [e] at k1
  exact k1.trans (genResponders_sim E seed' onlI onlC b gqI gqC cfg).symm

end Rough.Props.GenCore
