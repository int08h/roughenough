import Rough.Lemmas.Runtime
/-
  C15 — every documented in-range configuration yields a fully serving server (partial).
  Theorem part: the start-up resource logic, for every number of workers and EVERY order in which the
  scheduler hands the configuration mutex to the workers; and the preconditions of Server::new's
  expect/unwrap sites follow from configuration validity. What the model cannot exhibit: real thread
  timing, kernel accept-queue behaviour, memory for per-client statistics — covered only by the
  process-level correspondence runs (thread names in /proc, per-worker certificates on the UDP port,
  TCP health probes sequential and parallel, exit status).
-/
namespace Rough.Props.C15
open Rough Rough.Startup Rough.Config

/-- With the listener bound with SO_REUSEPORT (repaired code), for every number of workers, every
    start order and with or without a health-check port: every worker starts, none panics, the
    mutex is never poisoned, and every worker owns a health listener when one is configured. -/
theorem C15_all_start (hc : Bool) (order : List Nat) :
    let st := startAll hc true order
    st.running = order ∧ st.panicked = [] ∧ st.mutexPoisoned = false ∧
    (hc = true → st.listeners.map (·.1) = order) := by
  have h := Lemmas.Runtime.foldl_ok hc order {} rfl (by simp)
  simpa [startAll] using h

/-- The unrepaired code (plain bind): with a health-check port and at least two workers exactly one
    worker survives, whatever the order — the finding F6 (example.cfg on a multi-core host). -/
theorem C15_unfixed_witness (first second : Nat) (rest : List Nat) :
    let st := startAll true false (first :: second :: rest)
    st.running = [first] ∧ st.panicked = second :: rest ∧ st.mutexPoisoned = true := by
  have h := Lemmas.Runtime.foldl_poisoned true false rest
    { listeners := [(first, false)], mutexPoisoned := true, running := [first], panicked := [second] } rfl
  simpa [startAll, startWorker, tcpBind] using h

/-- a configuration accepted by the validator satisfies what Server::new's expect/unwrap sites need:
    a parsable socket address, a 32-byte plaintext seed (MsgSigner::from_seed), a fault percentage
    that is a probability (Bernoulli::from_ratio(p, 100)), a batch size that fits the u8 loops -/
theorem C15_valid_preconditions (fs : FsFacts) (c : Cfg) (h : isValid fs c = true) :
    isIpv4 c.interface = true ∧ (c.kmsPlain = true → c.seed.length = 32) ∧ c.faultPct ≤ 100 ∧
    1 ≤ c.batchSize ∧ c.batchSize ≤ 64 ∧ 1 ≤ c.numWorkers ∧ c.port ≠ 0 := by
  simp only [isValid, decide_eq_true_eq] at h
  obtain ⟨hport, _, _, hseed, ⟨hb1, hb2⟩, hf, hw, _, hip⟩ := h
  refine ⟨hip, ?_, by omega, hb1, hb2, by omega, hport⟩
  intro hk
  simpa [hk] using hseed

example : (startAll true true [2, 0, 1]).running = [2, 0, 1] := by decide
example : (startAll true false [2, 0, 1]).running = [2] := by decide

end Rough.Props.C15
