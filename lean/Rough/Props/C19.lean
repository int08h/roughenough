import Rough.Lemmas.Runtime
import Rough.Props.C02
/-
  C19 — SIGINT or SIGTERM at any moment stops the server cleanly and promptly (partial).
  Theorem part: the polling-loop logic against an ADVERSARIAL arrival process (any number of
  datagrams may arrive at any time, forever). What the model cannot exhibit: `ctrlc`'s signal thread
  actually setting the flag, wall-clock latency, the exit status of a process whose worker panicked —
  covered by the process-level signal sweeps (idle / closed-loop load / open-loop flood).
-/
namespace Rough.Props.C19
open Rough Rough.Shutdown

/-- every call of process_events returns after at most M batches, whatever arrives -/
theorem C19_call_bounded (B M q : Nat) (arr : Nat → Nat) : (serviceCall B M q arr).1 ≤ M := by
  induction M generalizing q arr with
  | zero => simp [serviceCall]
  | succ M ih =>
    unfold serviceCall
    simp only
    split
    · simp
    · have := ih (q - min q B + arr 0) (fun i => arr (i + 1))
      simp only [ge_iff_le]
      omega

/-- For EVERY arrival process — including a flood that keeps the queue non-empty for ever — a worker
    returns right after the first call that ends once the flag is set: at most one call (≤ M batches of
    ≤ B datagrams, plus one ≤100 ms poll) after the signal. -/
theorem C19_worker_exits (B M flagAt : Nat) (arr : Nat → Nat → Nat) (q0 : Nat) (fuel : Nat) (hf : flagAt < fuel) :
    workerLoop B M flagAt arr fuel 0 q0 = some flagAt :=
  Lemmas.Runtime.workerLoop_exits B M flagAt arr fuel 0 q0 (Nat.zero_le _) (by omega)

/-- the reporter thread leaves its loop at the first check after the flag (it checks once per second) -/
theorem C19_reporter_exits (flagAt fuel : Nat) (hf : flagAt < fuel) : reporterLoop flagAt fuel 0 = some flagAt :=
  Lemmas.Runtime.reporterLoop_exits flagAt fuel 0 (Nat.zero_le _) (by omega)

/-- The unrepaired loop: there is an arrival process (one full batch arriving per batch served)
    under which a call never returns, no matter how long one watches — the finding F9. -/
theorem C19_flood_starves_unfixed (B : Nat) (hB : 0 < B) (q : Nat) (hq : B ≤ q) (fuel : Nat) :
    serviceUnbounded B fuel q (fun _ => B) = none := by
  induction fuel generalizing q with
  | zero => simp [serviceUnbounded]
  | succ fuel ih =>
    unfold serviceUnbounded
    have hmin : min q B = B := Nat.min_eq_right hq
    simp only [hmin, Nat.lt_irrefl, if_false]
    exact ih (q - B + B) (by omega)

/-- responses are complete: exit happens only BETWEEN calls, and every datagram a call sends is a
    complete valid response (C02_honest applies to every pass of every call). -/
theorem C19_replies_complete (E : Env) (hE : ServerSpec.EnvOK E) (hS : E.S.Correct) (K : ServerSpec.Keys) (hK : K.OK)
    (debug : Bool) (s : Server) (hs : ServerSpec.Inv E K s) (hb : s.batchSize ≤ 2 ^ 32) (p : Server.Pass)
    (hp : ServerSpec.PassOK p) :
    ∃ s' sent ev, Server.pass E debug s p = .ok (s', sent, ev) ∧
      ∀ ver, ∀ i (h : i < (ServerSpec.accepted s.srv ver (p.chunk.take s.batchSize)).length),
        let reqs := ServerSpec.accepted s.srv ver (p.chunk.take s.batchSize)
        let now := match ver with | .ietf => p.nowIetf | .google => p.nowClassic
        ∃ x ∈ sent, x.dst = reqs[i].1.src ∧
          Spec.RT.verifyResponse E.S E.H (ServerSpec.protoOfVer ver) (E.S.pk K.seed) reqs[i].1.bytes reqs[i].2 x.bytes
            = .ok (ServerSpec.midpVal ver now, radiOf ver) :=
  Rough.Props.C02.C02_honest E hE hS K hK debug s hs hb p hp

end Rough.Props.C19
