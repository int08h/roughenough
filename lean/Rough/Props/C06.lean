import Rough.Lemmas.Codec
/-
  C06 — decoding and printing untrusted bytes never panics or reads out of bounds.
  In the model every Rust slice/index/unchecked subtraction of message.rs is an explicit
  `Res.panic` branch (Model/Codec.lean), so these are statements about reachable panic sites.
-/
namespace Rough.Props.C06
open Rough

/-- header length of an encoded message with n ≥ 1 fields -/
def headerLen (n : Nat) : Nat := 8 * n

/-- for every byte string of any length, decoding returns a message or an error, never a panic. -/
theorem C06_total (b : Bytes) (s : String) : fromBytes b ≠ .panic s :=
  Lemmas.fromBytes_no_panic b s

/-- the values of an accepted non-empty message, concatenated in order, are exactly the input
    bytes that follow the header: nothing invented, nothing read past the end. -/
theorem C06_payload (b : Bytes) (m : Msg) (h : fromBytes b = .ok m) (hne : m.fields ≠ []) :
    headerLen m.fields.length ≤ b.length ∧ m.values.flatten = b.drop (headerLen m.fields.length) :=
  Lemmas.payload b m h hne

/-- formatting any message for display (repaired code: a nested value that does not parse is
    printed as hex) returns normally whatever bytes its nested fields contain, at every
    indentation level ≥ 1 — in particular the fuel (= byte count + 2) is never exhausted. -/
theorem C06_display (m : Msg) (s : String) : display false m ≠ .panic s :=
  Lemmas.displayFuel_no_panic _ 1 m (Nat.le_refl _) (Nat.le_refl _) s

/-- the unrepaired code (`from_bytes(value).unwrap()`) does panic: the concrete witness of finding F4. -/
theorem C06_display_unfixed_witness :
    ∃ b m s, fromBytes b = .ok m ∧ display true m = .panic s := by
  refine ⟨encode ⟨[(Tag.CERT, [])]⟩, ⟨[(Tag.CERT, [])]⟩,
    "message.rs:to_string:from_bytes(value).unwrap()", by decide, ?_⟩
  have h0 : fromBytes [] = .err := by decide
  simp [display, msgBytes, Msg.values, displayFuel, Tag.isNested, h0]

end Rough.Props.C06
