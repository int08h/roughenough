import Rough.Bridge.Envelope
import Rough.Props.C14
/-
  C14 stated directly about the Lean code REGENERATED FROM /repo's RUST SOURCE on every run
  (`Gen.EnvelopeEncryption.decrypt_seed`, Rough/Generated/Src/Envelope.lean): each theorem is the bridge theorem
  `decrypt_seed_sim` (generated function ≃ᵣ model `Envelope.decrypt`) composed with a theorem of Props/C14.lean, so it
  re-checks on every run against what the code says now.  Nothing new is proved about the model here.
-/
namespace Rough.Props.GenCore
open Rough Rough.Bridge

/-- C14 (totality) for the translated code: for every AEAD, every key provider (both may fail) and every blob, the
    generated `decrypt_seed` returns a seed or an error — it never panics. -/
theorem GEN_decrypt_seed_total (A : Envelope.Aead) (K : Envelope.Kms) (blob : Bytes) (s : String) :
    Gen.EnvelopeEncryption.decrypt_seed A K blob ≠ .panic s :=
  Res.ne_panic_of_isPanic (decrypt_seed_no_panic A K blob) s

/-- C14 (round trip) for the translated code: the generated `decrypt_seed` recovers every seed of at least 32 bytes
    from the blob the model's `encrypt` lays out for it, for every correct AEAD with 16-byte tags and every provider
    whose unwrap inverts its wrap on this 32-byte data key (wrapped-key length below 2^16). -/
theorem GEN_decrypt_round_trip (K : Envelope.Kms) (A : Envelope.Aead) (hA : A.Correct)
    (hlen : ∀ k n ad pt ct, A.sealF k n ad pt = some ct → ct.length = pt.length + 16)
    (dek nonce seed w : Bytes) (hd : dek.length = 32) (hn : nonce.length = 12)
    (hw : K.wrap dek = some w) (hu : K.unwrap w = some dek) (hwl : w.length < 2 ^ 16) (hs : 32 ≤ seed.length) :
    ∃ blob, Envelope.encrypt K A dek nonce seed = .ok blob ∧
      Gen.EnvelopeEncryption.decrypt_seed A K blob = .ok seed := by
  obtain ⟨blob, he, hdec⟩ := Props.C14.C14_round_trip K A hA hlen dek nonce seed w hd hn hw hu hwl hs
  exact ⟨blob, he, (Res.Sim.ok_iff (decrypt_seed_sim A K blob) seed).mpr hdec⟩

/-- C14 (tamper evidence, as a reduction) for the translated code: if the generated `decrypt_seed` returns a value on
    ANY blob different from the honest one (wrapped key `w`, 12-byte nonce, ciphertext `ct`), then that blob parses
    into a (wrapped key, nonce, ciphertext) triple different from the honest triple, the provider unwrapped that
    wrapped key to a 32-byte key, and the AEAD opened that ciphertext under that key and nonce to the returned value
    — i.e. the attacker holds an AEAD forgery or the provider is malleable. -/
theorem GEN_decrypt_tamper (K : Envelope.Kms) (A : Envelope.Aead) (w nonce ct : Bytes) (hn : nonce.length = 12)
    (hwl : w.length < 2 ^ 16) (hmin : Envelope.MIN_PAYLOAD_SIZE ≤ 4 + w.length + 12 + ct.length)
    (blob' p' : Bytes) (hne : blob' ≠ Envelope.layout w nonce ct)
    (hdec : Gen.EnvelopeEncryption.decrypt_seed A K blob' = .ok p') :
    ∃ w' n' c' dek', Envelope.parse blob' = some (w', n', c') ∧ (w', n', c') ≠ (w, nonce, ct) ∧
      K.unwrap w' = some dek' ∧ dek'.length = 32 ∧ A.openF dek' n' Envelope.AD c' = some p' :=
  Props.C14.C14_tamper K A w nonce ct hn hwl hmin blob' p' hne
    ((Res.Sim.ok_iff (decrypt_seed_sim A K blob') p').mp hdec)

/-- C14 (wrong key) for the translated code: with a provider that returns a different data key for the honest blob,
    the generated `decrypt_seed` fails with an error when that key is not 32 bytes long, and any value it returns is
    an AEAD opening of the honest ciphertext under that other key (a forgery). -/
theorem GEN_decrypt_wrong_key (K' : Envelope.Kms) (A : Envelope.Aead) (w nonce ct dek' : Bytes)
    (hn : nonce.length = 12) (hwl : w.length < 2 ^ 16)
    (hmin : Envelope.MIN_PAYLOAD_SIZE ≤ 4 + w.length + 12 + ct.length) (hu : K'.unwrap w = some dek') :
    (dek'.length ≠ 32 → Gen.EnvelopeEncryption.decrypt_seed A K' (Envelope.layout w nonce ct) = .err) ∧
    (∀ p, Gen.EnvelopeEncryption.decrypt_seed A K' (Envelope.layout w nonce ct) = .ok p →
      A.openF dek' nonce Envelope.AD ct = some p) := by
  obtain ⟨h1, h2⟩ := Props.C14.C14_wrong_key K' A w nonce ct dek' hn hwl hmin hu
  have hsim := decrypt_seed_sim A K' (Envelope.layout w nonce ct)
  exact ⟨fun hl => (Res.Sim.err_iff hsim).mpr (h1 hl), fun p hp => h2 p ((Res.Sim.ok_iff hsim p).mp hp)⟩

end Rough.Props.GenCore
