import Rough.Lemmas.SendFail
/-
  `send_responses` with failing `send_to` calls (C17, the "recorded totals equal what was actually sent" clause),
  attributed in checklib/props.py.
-/
namespace Rough.Props.Extra3
open Rough Rough.Stats Rough.Responder Rough.Merkle

/-- C17 (refinement): whatever the outcomes of the individual `send_to` calls, a `send_responses`
    call behaves like the all-successful call of `Rough.Model.Server` — same responder state
    afterwards, same datagrams built — except that a failed send puts nothing on the wire and
    records `failedSend` (no bytes) for that request's source instead of the response event. In
    particular one failed send changes nothing for the requests after it. -/
theorem C17_send_failure_refines (ok : Addr → Nat → Bool) (E : Env) (r : Responder) (debug : Bool)
    (now : Nat × Nat) (gs : List Grease) :
    sendResponsesF ok E r debug now gs =
      (sendResponses E r debug now gs).bind fun x =>
        .ok (x.1, (degradeAll ok 0 x.2.1 x.2.2).1, (degradeAll ok 0 x.2.1 x.2.2).2) :=
  sendResponsesF_refines ok E r debug now gs

/-- C17: when every send succeeds the model with send outcomes IS the model used everywhere else. -/
theorem C17_send_all_ok (ok : Addr → Nat → Bool) (hok : ∀ a i, ok a i = true) (E : Env) (r : Responder)
    (debug : Bool) (now : Nat × Nat) (gs : List Grease) :
    sendResponsesF ok E r debug now gs =
      (sendResponses E r debug now gs).bind fun x => .ok (x.1, x.2.1.map some, x.2.2) :=
  sendResponsesF_all_ok ok hok E r debug now gs

/-- C17 (recorded totals equal what was actually sent): after any `send_responses` call, with any
    pattern of failing sends, there is exactly one event per queued request, in order and for that
    request's source address; the bytes recorded are the bytes of the datagrams that actually left;
    the number of response events is the number of datagrams sent; the number of `failedSend` events
    is the number of requests for which nothing was sent; and no event is of any other kind. -/
theorem C17_send_events_match_wire (ok : Addr → Nat → Bool) (E : Env) (r : Responder) (debug : Bool)
    (now : Nat × Nat) (gs : List Grease) (r' : Responder) (os : List (Option Sent)) (es : List Event)
    (h : sendResponsesF ok E r debug now gs = .ok (r', os, es)) :
    os.length = r.requests.length ∧ es.length = r.requests.length ∧
    es.map (·.addr) = r.requests.map (·.2) ∧
    (es.map (·.bytes)).sum = ((os.filterMap id).map (·.bytes.length)).sum ∧
    (es.filter isResp).length = (os.filterMap id).length ∧
    (es.filter isFailed).length = (os.filter Option.isNone).length ∧
    (es.filter isResp).length + (es.filter isFailed).length = r.requests.length ∧
    (∀ e ∈ es, isResp e = true ∨ (isFailed e = true ∧ e.bytes = 0)) := by
  rw [sendResponsesF_refines] at h
  obtain ⟨y, h0, h⟩ := Res.of_bind_eq_ok h
  cases h
  obtain ⟨_, i1, i2⟩ := sendResponses_ok_inv h0
  have hl := sendResponses_ok_length h0
  obtain ⟨a1, a2, a3, a4, a5, a6, a7, a8⟩ := i2 ▸ degradeAll_account ok r.ver y.2.1 0
  exact ⟨by omega, by omega, by rw [a3, i1], a4, a5, a6, by omega, a8⟩

/-- non-vacuity of the failing branch: a two-request batch whose first send fails records
    (failedSend, response) — the second request is unaffected -/
example :
    (degradeAll (fun _ i => i != 0) 0 [⟨1, [1, 2]⟩, ⟨2, [3, 4, 5]⟩]
      [⟨Kind.classicResp, 1, 2⟩, ⟨Kind.classicResp, 2, 3⟩]) =
      ([none, some ⟨2, [3, 4, 5]⟩], [⟨Kind.failedSend, 1, 0⟩, ⟨Kind.classicResp, 2, 3⟩]) := by decide

end Rough.Props.Extra3
