import Rough.Lemmas.ServerAssembly
import Rough.Props.C12
/-
  C07 — the server answers only well-formed 1024–1500 byte requests and never amplifies.
-/
namespace Rough.Props.C07
open Rough Rough.Spec.RT

/-- a datagram is accepted only if it is 1024..1500 bytes long, is a well-formed request of its
    protocol by the reference classification, and carries a nonce of the protocol's length -/
theorem C07_only_wellformed (d srv nonce : Bytes) (v : Version)
    (h : nonceFromRequest d srv = .ok (nonce, v)) :
    1024 ≤ d.length ∧ d.length ≤ 1500 ∧ nonce.length = v.nonceLen ∧
    classifyRequest (protoOf d) srv d = .must nonce ∧ v = Props.C12.versionOf (protoOf d) :=
  Lemmas.Request.only_wellformed d srv nonce v h

/-- classifying a datagram never panics, whatever its bytes and length -/
theorem C07_classify_total (d srv : Bytes) (s : String) : nonceFromRequest d srv ≠ .panic s :=
  Lemmas.Request.no_panic d srv s

/-- every datagram sent by a pass goes to the source of an accepted request of that pass, is no
    longer than that request, and rejected datagrams cause nothing to be sent: the sent list is
    exactly one reply per accepted request (see C09 for the exact content). No amplification:
    classic replies are 432 + 64·depth ≤ 944 bytes, IETF replies 408 + 32·depth ≤ 664 bytes for
    every batch of at most 255 requests, while every accepted request is ≥ 1024 bytes. -/
theorem C07_no_amplification (E : Env) (hE : ServerSpec.EnvOK E) (K : ServerSpec.Keys)
    (hK : K.OK) (debug : Bool) (s : Server) (hs : ServerSpec.Inv E K s) (hb : s.batchSize ≤ 255)
    (p : Server.Pass) (hp : ServerSpec.PassOK p)
    (s' : Server) (sent : List Sent) (ev : List Stats.Event)
    (h : Server.pass E debug s p = .ok (s', sent, ev)) :
    sent.length = (ServerSpec.accepted s.srv .ietf (p.chunk.take s.batchSize)).length
                + (ServerSpec.accepted s.srv .google (p.chunk.take s.batchSize)).length ∧
    ∀ x ∈ sent, x.bytes.length ≤ 944 ∧
      ∃ d ∈ p.chunk.take s.batchSize, d.src = x.dst ∧ (∃ n v, nonceFromRequest d.bytes s.srv = .ok (n, v)) ∧
        x.bytes.length ≤ d.bytes.length := by
  obtain ⟨s1, hpass, _⟩ := Lemmas.ServerSpec.pass_spec E hE K debug s hs (by omega) p hp
  rw [hpass] at h
  cases h
  refine ⟨Lemmas.ServerSpec.ss_expectedSent_length E K s p, fun x hx => ?_⟩
  obtain ⟨ver, hx⟩ := Lemmas.ServerAssembly.sa_mem_expectedSent.mp hx
  exact Lemmas.ServerAssembly.sa_batch_no_amplification E hE K s.srv ver (Lemmas.ServerAssembly.nowOf p ver) _
    (Nat.le_trans (Lemmas.ServerAssembly.sa_accepted_le s.srv ver p.chunk s.batchSize) hb) x hx

end Rough.Props.C07
