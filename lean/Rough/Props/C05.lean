import Rough.Lemmas.Codec
/-
  C05 — wire codec round-trips, is canonical, and agrees with a reference codec.
  Only statements and their (short) proofs from Lemmas/Codec live here.
-/
namespace Rough.Props.C05
open Rough

/-- Enum order (what the Rust `PartialOrd` compares, hence what `add_field` and the decoder enforce)
    is exactly ascending numeric order of the little-endian wire value. -/
theorem C05_tag_order (a b : Tag) : a.idx < b.idx ↔ Spec.tagNum a < Spec.tagNum b :=
  Lemmas.tag_order a b

/-- `from_wire ∘ wire_value = id`, and `from_wire` returns only the tag with exactly those bytes. -/
theorem C05_tag_wire (t : Tag) (w : Bytes) :
    Tag.ofWire t.wire = some t ∧ (Tag.ofWire w = some t → t.wire = w) :=
  ⟨Lemmas.ofWire_wire t, Lemmas.wire_of_ofWire⟩

/-- decode ∘ encode = id for every message built through the API (strictly increasing tags) from
    4-byte-aligned values — any number of fields 0..18, any lengths below the u32 limit. -/
theorem C05_decode_encode (m : Msg) (hs : m.Sorted) (ha : m.Aligned) (hsz : encodedSize m < 2 ^ 32) :
    fromBytes (encode m) = .ok m :=
  Lemmas.decodes_fromBytes (by rw [Lemmas.encode_length]; exact hsz) (Lemmas.decodes_encode m hs ha)

/-- every accepted non-empty message re-encodes to the identical bytes (canonical encoding). -/
theorem C05_encode_decode (b : Bytes) (m : Msg) (h : fromBytes b = .ok m) (hne : m.fields ≠ [])
    (hlen : b.length < 2 ^ 32) : encode m = b :=
  Lemmas.encode_decode b m h hne

/-- the implementation model accepts exactly what the independent reference decoder accepts, with
    identical content. -/
theorem C05_ref (b : Bytes) (m : Msg) (hlen : b.length < 2 ^ 32) :
    fromBytes b = .ok m ↔ Spec.decode b = some m :=
  Lemmas.ref_agree b m hlen

/-- RFC framing adds exactly the 8-byte magic and the little-endian payload length. -/
theorem C05_framed (m : Msg) :
    encodeFramed m = Rough.strBytes "ROUGHTIM" ++ le32 (encode m).length ++ encode m ∧
    (encodeFramed m).length = 12 + (encode m).length :=
  Lemmas.framed m

/-- the size `encode` asserts on (`assert_eq!(out.len(), self.encoded_size())`) always holds -/
theorem C05_encoded_size (m : Msg) : (encode m).length = encodedSize m :=
  Lemmas.encode_length m

/-- non-vacuity: a concrete 3-field message meets the hypotheses of `C05_decode_encode`. -/
example : let m : Msg := ⟨[(Tag.SIG, [1,2,3,4]), (Tag.NONC, []), (Tag.PAD, [0,0,0,0,9,9,9,9])]⟩
    m.Sorted ∧ m.Aligned ∧ encodedSize m < 2 ^ 32 := by
  intro m
  unfold Msg.Sorted Msg.Aligned
  decide

end Rough.Props.C05
