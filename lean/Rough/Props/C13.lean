import Rough.Lemmas.Sign
/-
  C13 — incremental signer/verifier equal one-shot signing/verification, no carry-over.
  `S : SigScheme` is arbitrary (the concrete RFC 8032 transcription is plugged in by the driver and
  compared with ed25519-dalek on every run), so these are statements about the buffering logic of
  MsgSigner / MsgVerifier for every history.
-/
namespace Rough.Props.C13
open Rough

/-- messages signed by a history: for every `sign`, the concatenation of the chunks fed since the
    previous `sign` (or since creation) -/
def segments : List SignerOp → List Bytes :=
  let rec go (cur : Bytes) : List SignerOp → List Bytes
    | [] => []
    | .update d :: ops => go (cur ++ d) ops
    | .sign :: ops => cur :: go [] ops
  go []

/-- For every seed and every history of updates and signs on one signer object, the k-th signature
    is the one-shot signature of the concatenated chunks of the k-th message alone. -/
theorem C13_signer (S : SigScheme) (seed : Bytes) (ops : List SignerOp) :
    runSigner S ⟨seed, []⟩ ops = (segments ops).map (S.sign seed) :=
  Lemmas.Sign.signer S seed ops

/-- no carry-over: after a `sign` the signer object is indistinguishable from a new one -/
theorem C13_no_carry_over (S : SigScheme) (s : Signer) : (s.sign S).2 = ⟨s.seed, []⟩ := rfl

/-- independence of chunking: two chunkings of the same message give the same signature -/
theorem C13_chunking (S : SigScheme) (seed : Bytes) (c1 c2 : List Bytes) (h : c1.flatten = c2.flatten) :
    runSigner S ⟨seed, []⟩ (c1.map .update ++ [.sign]) = runSigner S ⟨seed, []⟩ (c2.map .update ++ [.sign]) :=
  Lemmas.Sign.chunking S seed c1 c2 h

/-- the verifier, fed a message in arbitrary chunks, accepts exactly when one-shot verification of
    the concatenation does (for a parsable key and a 64-byte signature; otherwise it panics, which
    callers treat as rejection). -/
theorem C13_verifier (S : SigScheme) (pk : Bytes) (chunks : List Bytes) (sig : Bytes)
    (hpk : pk.length = 32) (hv : S.pkValid pk = true) (hs : sig.length = 64) :
    (Verifier.new S pk).bind (fun v => (chunks.foldl Verifier.update v).verify S sig)
      = .ok (S.verify pk chunks.flatten sig) :=
  Lemmas.Sign.verifier S pk chunks sig hpk hv hs

example : segments [.update [1], .update [2], .sign, .sign, .update [3], .sign] = [[1, 2], [], [3]] := by
  decide

end Rough.Props.C13
