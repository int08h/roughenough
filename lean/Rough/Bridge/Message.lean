import Rough.Bridge.Basic
import Rough.Generated.Src.Message
import Rough.Lemmas.KeysBasic
/-
  Bridge theorems for src/message.rs: `with_capacity`, `add_field`, `get_field`, `num_fields`, `encoded_size`,
  `calculate_padding_length`, `encode`, `encode_framed` and `from_bytes` (with `single_tag_message`, `multi_tag_message`)
  as generated from the Rust source equal (up to `≃ᵣ`) the hand-written model functions that the property theorems
  (C05, C06, C07, C08, C12 …) are about — for ALL inputs.  `clear` and `into_hash_map` are bridged in Bridge/Client.lean,
  `tags`, `values` and `new_deliberately_invalid` in Bridge/Grease.lean, next to their only callers.
  The generated file is rewritten from /repo on every run, so these proofs are re-checked against what the code says
  now; a change of behaviour in message.rs makes one of them fail.
-/
namespace Rough
namespace Bridge

/-- the generated `RtMessage` (two parallel vectors) of a model message -/
def toGen (m : Msg) : Gen.RtMessage := ⟨m.tags, m.values⟩

theorem fields_ne_nil_of_toGen {m : Msg} (h : (toGen m).tags ≠ []) : m.fields ≠ [] :=
  fun he => h (by rw [toGen, Msg.tags, he]; rfl)

theorem with_capacity_eq (n : Nat) : Gen.RtMessage.with_capacity n = .ok (toGen Msg.empty) := by
  rfl
theorem with_capacity_eq' (n : Nat) : Gen.RtMessage.with_capacity n = .ok (toGen ⟨[]⟩) := rfl

theorem add_field_eq (m : Msg) (t : Tag) (v : Bytes) :
    Gen.RtMessage.add_field (toGen m) t v = Rs.ofOpt ((m.addField t v).map toGen) := by
  unfold Gen.RtMessage.add_field
  simp only [Res.pure_eq, Res.bind_eq, toGen, Msg.addField, Msg.tags, Msg.values, List.getLast?_map]
  cases h : m.fields.getLast? with
  | none => 
    have : m.fields = [] := by simpa using h
    simp [this, toGen, Msg.tags, Msg.values]
  | some p =>
    obtain ⟨lt, lv⟩ := p
    simp only [Option.map_some, Tag.le_def]
    by_cases hc : t.idx ≤ lt.idx <;> simp [hc, Msg.tags, Msg.values, toGen]

/-- one generated `msg.add_field(t, v).unwrap()` step, in general: the model's `Res.unwrap` of `Msg.addField` -/
theorem add_step_sim (m : Msg) (t : Tag) (v : Bytes) (site site' : String) :
    Rs.unwrapR (Gen.RtMessage.add_field (toGen m) t v) site ≃ᵣ (Res.unwrap site' (m.addField t v)).map toGen := by
  rw [add_field_eq]
  cases m.addField t v
  · exact .panic _ _
  · exact .ok rfl

theorem add_step_ok (m : Msg) (t : Tag) (v : Bytes) (site : String) (h : ∀ f ∈ m.fields, f.1.idx < t.idx) :
    Rs.unwrapR (Gen.RtMessage.add_field (toGen m) t v) site = .ok (toGen ⟨m.fields ++ [(t, v)]⟩) := by
  rw [add_field_eq, Lemmas.Keys.addField_ok m t v h]
  rfl

/-- `add_step_ok` together with what follows the step, and with its hypothesis as a check on the tags present: for a
    literal message it is closed by `rfl` -/
theorem add_step_bind {β} (m : Msg) (t : Tag) (v : Bytes) (site : String) (k : Gen.RtMessage → Res β)
    (h : (m.tags.all fun l => decide (l.idx < t.idx)) = true) :
    (Rs.unwrapR (Gen.RtMessage.add_field (toGen m) t v) site).bind k = k (toGen ⟨m.fields ++ [(t, v)]⟩) := by
  rw [add_step_ok m t v site fun f hf => of_decide_eq_true (List.all_eq_true.mp h f.1 (List.mem_map_of_mem hf)),
    Res.bind_ok]

/-- one `msg.add_field(TAG, v).unwrap()` of generated code, for a concrete tag above those already present -/
macro "add_step" : tactic => `(tactic| rw [add_step_bind _ _ _ _ _ rfl])

/-- `RtMessage::num_fields` (a `u32`) -/
theorem num_fields_eq (m : Msg) : Gen.RtMessage.num_fields (toGen m) = .ok (m.numFields % 4294967296) := by
  simp [Gen.RtMessage.num_fields, toGen, Msg.numFields]

theorem encoded_size_eq (m : Msg) : Gen.RtMessage.encoded_size (toGen m) = .ok (encodedSize m) := by
  unfold Gen.RtMessage.encoded_size
  simp only [Res.pure_eq, Res.bind_eq, toGen, Lemmas.tags_length, encodedSize]
  by_cases h : m.fields.length < 2
  · rw [if_pos h, if_pos h]; rfl
  · rw [if_neg h, if_neg h, Rs.sub_ok (by omega)]; rfl

/-- `RtMessage::calculate_padding_length`: the model's value whenever the Rust subtraction `padding_needed -= 4`
    does not underflow (it cannot for a message of 4-byte aligned values: sizes are multiples of 4). -/
theorem calculate_padding_length_eq (m : Msg)
    (h : ¬ (m.fields.length = 1 ∧ 1020 < encodedSize m ∧ encodedSize m < 1024)) :
    Gen.RtMessage.calculate_padding_length (toGen m) = .ok (paddingLength m, toGen m) := by
  unfold Gen.RtMessage.calculate_padding_length
  simp only [Res.pure_eq, Res.bind_eq, encoded_size_eq, Res.bind_ok, paddingLength]
  rw [show (toGen m).tags.length = m.fields.length from Lemmas.tags_length m]
  by_cases h1 : encodedSize m ≥ 1024
  · rw [if_pos h1, if_pos h1]
  rw [if_neg h1, if_neg h1, Rs.sub_ok (by omega), Res.bind_ok]
  by_cases h3 : m.fields.length = 1
  · rw [if_pos h3, if_pos h3, Rs.sub_ok (by omega), Res.bind_ok]
  · rw [if_neg h3, if_neg h3]

theorem get_loop (t : Tag) (vals : List Bytes) (site : String) (suf : List (Tag × Bytes)) (k : Nat)
    (hv : vals.drop k = suf.map (·.2)) :
    Rs.forListR ((List.range' k suf.length).zip (suf.map (·.1))) ()
      (fun x (_ : Unit) => if t = x.snd then (Rs.idx vals x.fst site).bind fun v => Res.ok (Rs.Flow.ret (some v))
        else Res.ok (Rs.Flow.next ()))
      = .ok (match suf.find? (fun f => f.1 == t) with
             | some f => Rs.Flow.ret (some f.2)
             | none => Rs.Flow.next ()) := by
  induction suf generalizing k with
  | nil => rfl
  | cons f fs ih =>
    have h1 : vals[k]? = some f.2 := by
      have := congrArg List.head? hv
      simpa [List.head?_drop] using this
    have h2 : vals.drop (k + 1) = fs.map (·.2) := by
      have := congrArg List.tail hv
      simpa [List.tail_drop] using this
    simp only [List.length_cons, List.range'_succ, List.map_cons, List.zip_cons_cons, Rs.forListR_cons,
      List.find?_cons]
    by_cases hc : t = f.1
    · subst hc; simp [Rs.idx_ok h1]
    · have hc' : (f.1 == t) = false := by simpa using fun h => hc h.symm
      simp only [hc, if_false, hc']
      exact ih (k + 1) h2

theorem get_field_eq (m : Msg) (t : Tag) : Gen.RtMessage.get_field (toGen m) t = .ok (m.get t) := by
  unfold Gen.RtMessage.get_field
  simp only [Res.pure_eq, Res.bind_eq, Rs.enumerate, List.range_eq_range', toGen, Msg.tags, List.length_map]
  rw [get_loop t _ _ m.fields 0 (by simp [Msg.values])]
  simp only [Res.bind_ok, Msg.get]
  cases m.fields.find? (fun f => f.1 == t) <;> rfl

theorem encode_offsets_fold (ws : List Bytes) : ∀ (v : Bytes) (acc : Nat) (out : Bytes),
    (ws.foldl (fun (s : Bytes × Nat) (x : Bytes) => (s.fst ++ le32 s.snd, s.snd + x.length))
      (out, acc + v.length)).1 = out ++ (offsetsFrom acc (v :: ws)).flatMap le32 := by
  induction ws with
  | nil => intro v acc out; simp [offsetsFrom]
  | cons w ws ih =>
    intro v acc out
    simp only [List.foldl_cons, offsetsFrom, List.flatMap_cons]
    rw [ih w (acc + v.length)]
    simp

theorem append_loop {α} (f : α → Bytes) (l : List α) (out : Bytes) :
    l.foldl (fun out x => out ++ f x) out = out ++ l.flatMap f := by
  rw [List.flatMap_def, ← List.foldl_append_flatten, List.foldl_map]

/-- `RtMessage::encode`: the internal `assert_eq!` never fires and the bytes are the model's -/
theorem encode_eq (m : Msg) : Gen.RtMessage.encode (toGen m) = .ok (encode m) := by
  -- whichever branch built `out`: the size assertion holds by `encode_length`
  have tail : ∀ out site, out = encode m →
      (Rs.assert (decide (out.length = encodedSize m)) site).bind (fun _ => Res.ok out) = .ok (encode m) := by
    rintro _ _ rfl; simp [Lemmas.encode_length]
  unfold Gen.RtMessage.encode
  simp only [Res.pure_eq, Res.bind_eq, encoded_size_eq, Res.bind_ok, Rs.forList_pure, append_loop, List.foldl_append_flatten,
    Rs.withCapacity, List.nil_append, Lemmas.le32_mod]
  have ht : (toGen m).tags = m.tags := rfl
  have hv : (toGen m).values = m.values := rfl
  rw [ht, hv, Lemmas.tags_length]
  have hl := Lemmas.values_length m
  by_cases h : m.fields.length > 1
  · obtain ⟨v, ws, hvs⟩ : ∃ v ws, m.values = v :: ws := by
      cases hm : m.values with
      | nil => rw [hm] at hl; simp at hl; omega
      | cons v ws => exact ⟨v, ws, rfl⟩
    rw [if_pos h, hvs, Rs.idx_ok (List.getElem?_cons_zero ..), Rs.sliceFrom_ok (Nat.le_add_left 1 ws.length), Res.bind_ok,
      Res.bind_ok, List.drop_one, List.tail_cons, ← hvs]
    apply tail
    have := encode_offsets_fold ws v 0 (le32 m.fields.length)
    rw [Nat.zero_add] at this
    rw [this, ← hvs]; rfl
  · rw [if_neg h]
    apply tail
    have ho : offsetsFrom 0 m.values = [] := by
      match hm : m.values with
      | [] => rfl
      | [_] => rfl
      | _ :: _ :: _ => rw [hm] at hl; simp at hl; omega
    simp [encode, ho]

theorem encode_framed_eq (m : Msg) : Gen.RtMessage.encode_framed (toGen m) = .ok (encodeFramed m) := by
  unfold Gen.RtMessage.encode_framed
  simp only [Res.pure_eq, Res.bind_eq, encode_eq, Res.bind_ok, Rs.withCapacity, List.nil_append, Lemmas.le32_mod]
  rfl

/-- first loop of `multi_tag_message` = `readOffsets` -/
theorem offs_loop {body : Nat → Rs.Cursor × List Nat → Res (Rs.Step (Rs.Cursor × List Nat))} (b : Bytes) (len : Nat)
    (hbody : ∀ x c acc, body x (c, acc) = c.readU32.bind fun t =>
      if t.1 % 4 ≠ 0 then .err else if t.1 > len % 4294967296 then .err else .ok (.next (t.2, acc ++ [t.1])))
    (l : List Nat) (p : Nat) (acc : List Nat) :
    Rs.forList l (⟨b, p⟩, acc) body =
      (Rs.ofOpt (readOffsets len l.length (b.drop p))).map fun q => (⟨b, p + 4 * l.length⟩, acc ++ q.1) := by
  induction l generalizing p acc with
  | nil => simp [readOffsets]
  | cons x l ih =>
    rw [Rs.forList_cons_bind, hbody, Rs.Cursor.readU32_eq, List.length_cons, readOffsets]
    by_cases h4 : (b.drop p).length < 4
    · rw [if_pos h4, if_pos h4]; rfl
    rw [if_neg h4, if_neg h4, Res.bind_ok]
    by_cases hm : rd32 (b.drop p) % 4 ≠ 0
    · rw [if_pos hm, if_pos hm]; rfl
    rw [if_neg hm, if_neg hm]
    by_cases hl : rd32 (b.drop p) > len % 4294967296
    · rw [if_pos hl, if_pos hl]; rfl
    rw [if_neg hl, if_neg hl, Res.bind_ok]
    dsimp only
    rw [ih, List.drop_drop]
    cases readOffsets len l.length (b.drop (p + 4)) with
    | none => rfl
    | some q =>
      simp only [Rs.ofOpt_some, Res.map_ok, List.append_assoc, List.singleton_append, Res.ok.injEq, Prod.mk.injEq,
        Rs.Cursor.mk.injEq, true_and, and_true]
      omega

theorem readExact4_eq (b : Bytes) (p : Nat) :
    Rs.Cursor.readExact ⟨b, p⟩ 4 =
      if (b.drop p).length < 4 then .err else .ok ((b.drop p).take 4, ⟨b, p + 4⟩) := rfl

/-- second loop of `multi_tag_message` = `readTags`.  The loop also carries the four-byte buffer it reads into,
    which nothing after the loop looks at (`hk`). -/
theorem tags_read_loop {α} {body : Nat → Rs.Cursor × Bytes × List Tag → Res (Rs.Step (Rs.Cursor × Bytes × List Tag))}
    {k : Rs.Cursor × Bytes × List Tag → Res α} (b : Bytes)
    (hbody : ∀ x p buf acc, buf.length = 4 → body x (⟨b, p⟩, buf, acc) =
      if (b.drop p).length < 4 then .err else
        (Rs.ofOpt (Tag.ofWire ((b.drop p).take 4))).bind fun t =>
          if Lemmas.tooLow acc.getLast? t then .err
          else .ok (.next (⟨b, p + 4⟩, (b.drop p).take 4, acc ++ [t])))
    (hk : ∀ c u v a, u.length = 4 → v.length = 4 → k (c, u, a) = k (c, v, a))
    (l : List Nat) (p : Nat) (buf : Bytes) (acc : List Tag) (hb : buf.length = 4) :
    (Rs.forList l (⟨b, p⟩, buf, acc) body).bind k =
      (Rs.ofOpt (readTags acc.getLast? l.length (b.drop p))).bind fun q =>
        k (⟨b, p + 4 * l.length⟩, buf, acc ++ q.1) := by
  induction l generalizing p buf acc with
  | nil => simp [readTags]
  | cons x l ih =>
    rw [Rs.forList_cons_bind, hbody x p buf acc hb, List.length_cons, Lemmas.readTags_succ]
    by_cases h4 : (b.drop p).length < 4
    · rw [if_pos h4, if_pos h4]; rfl
    rw [if_neg h4, if_neg h4]
    cases Tag.ofWire ((b.drop p).take 4) with
    | none => rfl
    | some t =>
      simp only [Rs.ofOpt_some, Res.bind_ok, Option.bind_some]
      by_cases hl : Lemmas.tooLow acc.getLast? t = true
      · rw [if_pos hl, if_pos hl]; rfl
      have hw : ((b.drop p).take 4).length = 4 := by rw [List.length_take]; omega
      rw [if_neg hl, if_neg hl, Res.bind_ok]
      dsimp only
      rw [ih (p + 4) _ (acc ++ [t]) hw, List.getLast?_append, List.drop_drop]
      simp only [List.getLast?_singleton, Option.some_or]
      cases readTags (some t) l.length (b.drop (p + 4)) with
      | none => rfl
      | some q =>
        simp only [Rs.ofOpt_some, Option.map_some, Res.bind_ok, List.append_assoc, List.singleton_append]
        rw [hk _ _ buf _ hw hb]
        congr 3
        omega

theorem add_field_raw_ok (T : List Tag) (V : List Bytes) (t : Tag) (v : Bytes)
    (h : ∀ l, T.getLast? = some l → l.idx < t.idx) :
    Gen.RtMessage.add_field ⟨T, V⟩ t v = .ok ⟨T ++ [t], V ++ [v]⟩ := by
  unfold Gen.RtMessage.add_field
  simp only [Res.pure_eq, Res.bind_eq]
  cases hl : T.getLast? with
  | none => rfl
  | some l =>
    have := h l hl
    have hn : ¬ t ≤ l := by rw [Tag.le_def]; omega
    simp only [if_neg hn]

/-- consecutive (start, end) pairs: `zip (s :: es) es` -/
def pairs : Nat → List Nat → List (Nat × Nat)
  | _, [] => []
  | s, e :: es => (s, e) :: pairs e es

theorem zip_pairs (e : Nat) (offs : List Nat) : ∀ s, List.zip (s :: offs) (offs ++ [e]) = pairs s (offs ++ [e]) := by
  induction offs with
  | nil => intro s; rfl
  | cons o os ih => intro s; simp only [List.cons_append, List.zip_cons_cons, pairs, ih]

/-- third loop of `multi_tag_message` = `cutValues` (the tags are already known to be increasing, so `add_field`
    cannot fail; the bounds check precedes the slice, so it cannot panic) -/
theorem cut_loop {body : Tag × Nat × Nat → Gen.RtMessage → Res (Rs.Step Gen.RtMessage)} {site : String}
    (b : Bytes) (h : Nat)
    (hbody : ∀ t s e g, body (t, s, e) g =
      if h + e > b.length ∨ h + s > h + e then .err
      else (Rs.slice b (h + s) (h + e) site).bind fun v => (g.add_field t v).bind fun r => .ok (.next r))
    (es : List Nat) : ∀ (ts : List Tag) (s : Nat) (accT : List Tag)
    (accV : List Bytes), ts.length = es.length → ts.Pairwise (fun a b => a.idx < b.idx) →
    Lemmas.Above accT.getLast? ts →
    Rs.forList (ts.zip (pairs s es)) (⟨accT, accV⟩ : Gen.RtMessage) body =
      (cutValues b h s es).bind fun vs => .ok ⟨accT ++ ts, accV ++ vs⟩ := by
  induction es with
  | nil =>
    intro ts s accT accV hlen _ _
    have : ts = [] := by simpa using hlen
    subst this
    simp [pairs, cutValues]
  | cons e es ih =>
    intro ts s accT accV hlen hp ha
    match ts, hlen, hp, ha with
    | t :: ts, hlen, hp, ha =>
      rw [List.pairwise_cons] at hp
      rw [pairs, List.zip_cons_cons, Rs.forList_cons_bind, hbody, cutValues]
      by_cases hc : h + e > b.length ∨ h + s > h + e
      · rw [if_pos hc, if_pos hc]; rfl
      have hs : h + s ≤ h + e ∧ h + e ≤ b.length := by omega
      rw [if_neg hc, if_neg hc]
      rw [Rs.slice_ok hs.1 hs.2, Lemmas.slice_ok hs.1 hs.2, Res.bind_ok, Res.bind_ok]
      rw [add_field_raw_ok accT accV t _ (fun l hl => ha l hl t (by simp))]
      simp only [Res.bind_ok]
      rw [ih ts e (accT ++ [t]) _ (by simpa using hlen) hp.2
        (by intro l hl u hu; simp at hl; subst hl; exact hp.1 u hu), Res.bind_assoc]
      simp only [Res.bind_ok, List.append_assoc, List.singleton_append]

theorem multi_tag_sim (n : Nat) (b : Bytes) (hn : 2 ≤ n) :
    (Gen.RtMessage.multi_tag_message n b ⟨b, 4⟩).bind (fun r => .ok r.1) ≃ᵣ (multiTag n b).map toGen := by
  unfold Gen.RtMessage.multi_tag_message multiTag
  simp only [Res.pure_eq, Res.bind_eq, Res.bind_err, Res.bind_panic, Bool.false_eq_true, if_false, if_true,
    Rs.withCapacity, Rs.sub_ok (show 1 ≤ n by omega), Res.bind_ok, Res.bind_assoc]
  -- the three loops in turn (`offs_loop`, `tags_read_loop`, `cut_loop`); what `readOffsets` and `readTags` returned
  -- (`readOffsets_some`, `readTags_some`) gives the cursor position after each and the hypotheses of `cut_loop`
  rw [offs_loop b b.length (fun _ _ _ => rfl), List.length_range, Res.bind_map]
  cases hro : readOffsets b.length (n - 1) (b.drop 4) with
  | none => exact .err
  | some q =>
    obtain ⟨offs, rest⟩ := q
    obtain ⟨ho1, ho2, _⟩ := Lemmas.readOffsets_some hro
    have hrest : b.drop (4 + 4 * (n - 1)) = rest := by
      rw [← List.drop_drop, ho1]
      exact List.drop_left' (by rw [Lemmas.length_flatMap_le32, ho2])
    simp only [Rs.ofOpt_some, Res.bind_ok, List.nil_append]
    rw [tags_read_loop b ?hbody ?hk (List.range n) _ _ _ rfl, List.length_range, hrest, List.getLast?_nil]
    case hk => intros; rfl
    case hbody =>
      intro x p buf acc hb
      simp only [hb, readExact4_eq]
      by_cases h4 : (b.drop p).length < 4
      · rw [if_pos h4, if_pos h4]
      rw [if_neg h4, if_neg h4]
      dsimp only
      cases Tag.ofWire ((b.drop p).take 4) with
      | none => rfl
      | some t => cases acc.getLast? <;> simp [Lemmas.tooLow, Tag.le_def]
    cases hrt : readTags none n rest with
    | none => exact .err
    | some q =>
      obtain ⟨ts, r'⟩ := q
      obtain ⟨_, ht2, ht3, _⟩ := Lemmas.readTags_some hrt
      simp only [Rs.ofOpt_some, Res.bind_ok]
      refine (Rs.sub_sim _ _ _ _).bind_mapR fun e _ => ?_
      have hwc : Gen.RtMessage.with_capacity n = .ok ⟨[], []⟩ := rfl
      simp only [hwc, Res.bind_ok, List.nil_append, List.singleton_append, zip_pairs]
      rw [cut_loop b _ (fun _ _ _ _ => rfl) _ ts 0 [] [] (by rw [ht2, List.length_append, ho2]; simp; omega) ht3
        (by intro l hl; simp at hl)]
      simp only [Res.bind_assoc, Res.bind_ok, List.nil_append]
      refine (Res.Sim.refl _).bind_mapR fun vs hvs => .ok ?_
      have hl : ts.length = vs.length := by
        rw [Lemmas.cutValues_length hvs, ht2, List.length_append, ho2]; simp; omega
      simp only [toGen, Lemmas.zip_tags hl, Lemmas.zip_values hl]

theorem single_tag_eq (b : Bytes) :
    (Gen.RtMessage.single_tag_message b ⟨b, 4⟩).bind (fun r => .ok r.1) = (singleTag b).map toGen := by
  unfold Gen.RtMessage.single_tag_message singleTag
  simp only [Res.pure_eq, Res.bind_eq, Res.bind_err]
  by_cases h8 : b.length < 8
  · rw [if_pos h8, if_pos h8]; rfl
  rw [if_neg h8, if_neg h8]
  have hs : 4 ≤ 4 + 4 ∧ 4 + 4 ≤ b.length := by omega
  rw [Rs.slice_ok hs.1 hs.2, Lemmas.slice_ok hs.1 hs.2, Res.bind_ok, Res.bind_ok]
  cases Tag.ofWire ((b.drop 4).take (8 - 4)) with
  | none => rfl
  | some t =>
    simp only [Rs.ofOpt_some, Res.bind_ok, with_capacity_eq', add_field_eq]
    -- `add_field` on the empty message cannot fail, and `read_to_end` after `set_position(8)` is `b.drop 8`
    simp [Res.map, Msg.addField, toGen, Msg.tags, Msg.values, Rs.Cursor.readToEnd, Rs.Cursor.setPosition,
      Rs.Cursor.remaining]

theorem from_bytes_sim (b : Bytes) : Gen.RtMessage.from_bytes b ≃ᵣ (fromBytes b).map toGen := by
  unfold Gen.RtMessage.from_bytes fromBytes
  simp only [Res.pure_eq, Res.bind_eq, Res.bind_err, apply_ite (Res.map toGen), Res.map_err, Res.map_ok]
  refine .ite (fun _ => .err) fun h4 => ?_
  refine .ite (fun _ => .err) fun _ => ?_
  rw [Rs.Cursor.new, Rs.Cursor.readU32_eq, if_neg (by rw [List.drop_zero]; exact h4)]
  simp only [Res.bind_ok, List.drop_zero, Nat.zero_add]
  refine .ite (fun _ => .of_eq rfl) fun h0 => ?_
  refine .ite (fun _ => .of_eq (single_tag_eq b)) fun h1 => ?_
  by_cases hle : rd32 b ≤ 1024
  · rw [if_pos ⟨by omega, hle⟩, if_pos hle]
    exact multi_tag_sim _ b (by omega)
  · rw [if_neg (fun h => hle h.2), if_neg hle]; exact .err

theorem from_bytes_no_panic (b : Bytes) : (Gen.RtMessage.from_bytes b).isPanic = false := by
  rw [Res.Sim.isPanic_eq (from_bytes_sim b)]
  cases h : fromBytes b with
  | ok m => rfl
  | err => rfl
  | panic s => exact absurd h (Lemmas.fromBytes_no_panic b s)

end Bridge
end Rough
