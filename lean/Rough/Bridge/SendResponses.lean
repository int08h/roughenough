import Rough.Bridge.Keys
import Rough.Bridge.GreaseLemmas
import Rough.Lemmas.SendFail
/-
  Bridge theorem for `Responder::send_responses` (src/responder.rs): the batch loop generated from the Rust source —
  compute_root, make_srep, then per queued request: get_paths, make_response, fault injection, encode / encode_framed,
  `send_to` (which may fail), the `debug!` arguments (evaluated iff the level is enabled), statistics — equals the
  model `Responder.sendResponsesF` that C09 (`C09_pass`), C17 (`C17_send_failure_refines`, `C17_send_events_match_wire`),
  C02 and C08 are proved about: same datagrams to the same destinations in the same order, same statistics events,
  same responder state afterwards, same panics — for every responder state, clock reading, list of fault-injection
  decisions, pattern of failing sends and log level.
-/
namespace Rough
namespace Bridge
open Rough.Stats

theorem makeResponse_mod (srep : Msg) (cert path : Bytes) (idx : Nat) (nonce : Bytes) :
    makeResponse srep cert path (idx % 4294967296) nonce = makeResponse srep cert path idx nonce := by
  simp only [makeResponse, Lemmas.le32_mod]

theorem draw_snd (gs : List Grease) (cur : Grease) :
    (Gen.GreaseQ.draw ⟨gs, cur⟩).2 = ⟨gs.tail, gs.headD Grease.none⟩ := rfl

theorem iter_head_sim {δ : Type} (S : SigScheme) (H : Bytes → Bytes) (g : Gen.Responder) (v : Version) (t : Tree)
    (srep : Msg) (cert : Bytes) (idx : Nat) (nonce : Bytes) (gs : List Grease) (cur : Grease)
    (K : Gen.RtMessage → Res δ) (K' : Msg → Res δ) (hK : ∀ m, K (toGen m) ≃ᵣ K' m) :
    ((Gen.MerkleTree.get_paths H (toGenTree v t) idx).bind fun p =>
      (Gen.Responder.make_response S H g (toGen srep) cert p (idx % 4294967296) nonce).bind fun m =>
        (if (Gen.GreaseQ.draw ⟨gs, cur⟩).1 = true then (Gen.GreaseQ.draw ⟨gs, cur⟩).2.addErrors m
          else Res.ok m).bind K)
    ≃ᵣ ((Merkle.getPaths t idx).bind fun path =>
      (makeResponse srep cert path idx nonce).bind fun resp =>
        (applyGrease (gs.headD Grease.none) resp).bind K') := by
  refine Res.Sim.bind (get_paths_sim H v t idx) fun path => ?_
  refine Res.Sim.bind_map (q := toGen) ?_ fun resp _ => ?_
  · -- `idx % 4294967296` is the source's `idx as u32`
    rw [← makeResponse_mod]; exact make_response_sim S H g srep cert path _ nonce
  · rw [grease_step_eq]
    exact Res.Sim.bind_map (q := toGen) (.refl _) fun m _ => hK m

/-- what one iteration leaves: the fault-injection queue advanced, the socket counter advanced and the outcome
    recorded, the statistics event appended -/
def stepState (ok : Addr → Nat → Bool) (n0 : Nat) (inq : List (Bytes × Addr)) (clk : Nat → Rs.Time) (r : Responder)
    (idx : Nat) (gs : List Grease) (out : List (Option Sent))
    (stats : List Event) (p : Option Sent × Event) : Rs.Step (Gen.Responder × Gen.Sock × List Event) :=
  Rs.Step.next (toGenResponder r ⟨gs.tail, gs.headD Grease.none⟩, ⟨ok, n0 + (idx + 1), out ++ [p.1], inq, clk⟩,
    stats ++ [p.2])

/-- the decision last drawn after `n` more draws from the queue `⟨gs, cur⟩` -/
def curAfter (gs : List Grease) (cur : Grease) : Nat → Grease
  | 0 => cur
  | k + 1 => (gs.drop k).headD Grease.none

theorem curAfter_step (gs : List Grease) (cur : Grease) (k : Nat) :
    curAfter gs.tail (gs.headD Grease.none) k = curAfter gs cur (k + 1) := by
  cases k with
  | zero => rfl
  | succ j => cases gs <;> simp [curAfter]

theorem loop_sim (ok : Addr → Nat → Bool) (n0 : Nat) (inq : List (Bytes × Addr)) (clk : Nat → Rs.Time)
    (r : Responder) (debug : Bool) (srep : Msg)
    (body : Nat × Bytes × Addr → Gen.Responder × Gen.Sock × List Event →
      Res (Rs.Step (Gen.Responder × Gen.Sock × List Event)))
    (hbody : ∀ idx nonce src gs cur out stats,
      body (idx, nonce, src) (toGenResponder r ⟨gs, cur⟩, ⟨ok, n0 + idx, out, inq, clk⟩, stats) ≃ᵣ
        (Responder.respondOneF (fun a k => ok a (n0 + k)) r debug srep idx nonce src (gs.headD Grease.none)).map
          (stepState ok n0 inq clk r idx gs out stats)) :
    ∀ (rest : List (Bytes × Addr)) (idx : Nat) (gs : List Grease) (cur : Grease) (out : List (Option Sent))
      (stats : List Event),
      Rs.forList ((List.range' idx rest.length).zip rest)
          (toGenResponder r ⟨gs, cur⟩, ⟨ok, n0 + idx, out, inq, clk⟩, stats) body
        ≃ᵣ (Responder.respondAllF (fun a k => ok a (n0 + k)) r debug srep idx rest gs).map fun p =>
            (toGenResponder r ⟨gs.drop rest.length, curAfter gs cur rest.length⟩,
              (⟨ok, n0 + (idx + rest.length), out ++ p.1, inq, clk⟩ : Gen.Sock), stats ++ p.2) := by
  intro rest
  induction rest with
  | nil => intro idx gs cur out stats; exact .of_eq (by simp [Responder.respondAllF, curAfter])
  | cons x rest ih =>
    intro idx gs cur out stats
    obtain ⟨nonce, src⟩ := x
    simp only [List.length_cons, List.range'_succ, List.zip_cons_cons, Rs.forList_cons_bind, Responder.respondAllF,
      Res.map_bind]
    refine (hbody idx nonce src gs cur out stats).bind_map fun p _ => ?_
    refine (ih (idx + 1) gs.tail (gs.headD Grease.none) (out ++ [p.1]) (stats ++ [p.2])).trans (.of_eq ?_)
    -- what the rest of the loop appends comes after this iteration's datagram and event
    rw [curAfter_step gs cur]
    simp only [Res.map_ok, ← Res.map_eq_bind]
    exact congrArg (Res.map · _) (funext fun q => by simp [Nat.add_assoc, Nat.add_comm 1])

theorem bind_ok_map {α β} (r : Res α) (f : α → β) : (r.bind fun a => Res.map f (Res.ok a)) = r.map f :=
  (Res.map_eq_bind r f).symm

/-- what is observable of the generated call's result -/
def obsGen (x : Gen.Responder × Gen.Sock × List Event) :
    Version × Gen.OnlineKey × Bytes × List (Bytes × Nat) × Gen.MerkleTree × List Grease × List (Option Sent) × Nat ×
      List (Bytes × Addr) × List Event :=
  (x.1.version, x.1.online_key, x.1.cert_bytes, x.1.requests, x.1.merkle, x.1.grease.pending, x.2.1.out, x.2.1.n, x.2.1.inq, x.2.2)

/-- the same observables computed from the model's result (`sock` is the socket before the call) -/
def obsModel (sock : Gen.Sock) (n : Nat) (gs : List Grease) (ev0 : List Event) (y : Responder × List (Option Sent) × List Event) :
    Version × Gen.OnlineKey × Bytes × List (Bytes × Nat) × Gen.MerkleTree × List Grease × List (Option Sent) × Nat ×
      List (Bytes × Addr) × List Event :=
  (y.1.ver, ⟨y.1.onl, Version.supportedWire⟩, y.1.cert, y.1.requests, toGenTree y.1.ver y.1.tree, gs.drop n, sock.out ++ y.2.1,
   sock.n + n, sock.inq, ev0 ++ y.2.2)

/-- exact form of `send_responses_sim`: the whole state after the call (responder with its fault-injection queue,
    socket, statistics) -/
theorem send_responses_exact (E : Env) (hH : ∀ x, (E.H x).length = 64) (r : Responder) (gs : List Grease) (cur : Grease)
    (sock : Gen.Sock) (LOG : Nat) (ev0 : List Event) :
    Gen.Responder.send_responses E.S E.H LOG (toGenResponder r ⟨gs, cur⟩) sock ev0
      ≃ᵣ (Responder.sendResponsesF (fun a k => sock.ok a (sock.n + k)) E r (decide (LOG ≥ 4))
            ((sock.clock sock.n).secs, (sock.clock sock.n).nanos) gs).map
          (fun y => (toGenResponder y.1 ⟨gs.drop r.requests.length, curAfter gs cur r.requests.length⟩,
            ({ sock with n := sock.n + r.requests.length, out := sock.out ++ y.2.1 } : Gen.Sock), ev0 ++ y.2.2)) := by
  unfold Gen.Responder.send_responses Responder.sendResponsesF
  simp only [Res.pure_eq, Res.bind_eq, responder_is_empty_eq', Res.bind_ok_s]
  cases hemp : r.requests.isEmpty with
  | true => exact .of_eq (by simp [List.isEmpty_iff.mp hemp, curAfter])
  | false =>
    simp only [Bool.false_eq_true, if_false, Res.map_bind, mcfg_eq E hH]
    refine (compute_root_sim E.H hH r.ver r.tree).bind_map (q := fun p => (p.2, toGenTree r.ver p.1)) fun a _ => ?_
    refine (make_srep_sim E.S ⟨r.onl, Version.supportedWire⟩ rfl r.ver (Gen.Sock.now sock) a.2).bind_map
      (q := fun p => (toGen p.1, ({ signer := p.2, vers_wire_bytes := Version.supportedWire } : Gen.OnlineKey))) fun b _ => ?_
    rw [Rs.enumerate_eq_range']
    -- the generated code repacks the loop's final state component by component: that is `bind Res.ok`
    refine ((loop_sim sock.ok sock.n sock.inq sock.clock { r with tree := a.1, onl := b.2 } (decide (LOG ≥ 4)) b.1 _ ?hbody
      r.requests 0 gs cur sock.out ev0).bind (g := Res.ok) fun _ => .refl _).trans (.of_eq ?fin)
    case fin => rw [Res.bind_ok_right, Res.map_eq_bind]; simp only [Res.map_ok, Nat.zero_add]
    intro idx nonce src gs cur out stats
    obtain ⟨t, root⟩ := a
    obtain ⟨srep, onl'⟩ := b
    dsimp only [toGenResponder]
    simp only [Responder.respondOneF, Responder.respondOne, Res.map_bind, Res.bind_assoc]
    refine iter_head_sim E.S E.H _ r.ver t srep r.cert idx nonce gs cur _ _ ?hK
    intro m
    obtain ⟨ver, onl, cert, reqs, tree⟩ := r
    -- sixteen goals, each by computation: version (`encode` or `encode_framed`), the send succeeds or fails, `debug!`
    -- enabled or not and, for the `nonce[0..4]` it prints, a nonce of at least four bytes or a shorter one
    cases ver <;>
      simp only [encode_eq, encode_framed_eq, Rs.unwrapR_ok, Res.bind_ok_s, Gen.Sock.sendTo, wireOf, draw_snd] <;>
      cases hok : sock.ok src (sock.n + idx) <;>
      by_cases hL : LOG ≥ 4 <;>
      by_cases hs : 4 ≤ nonce.length <;>
      simp [hL, hs, Rs.slice, slice, stepState, toGenResponder, Res.map, Nat.add_assoc]

theorem send_responses_all_ok (E : Env) (hH : ∀ x, (E.H x).length = 64) (r : Responder) (gs : List Grease) (cur : Grease)
    (sock : Gen.Sock) (LOG : Nat) (ev0 : List Event) (hok : ∀ a k, sock.ok a (sock.n + k) = true) :
    Gen.Responder.send_responses E.S E.H LOG (toGenResponder r ⟨gs, cur⟩) sock ev0
      ≃ᵣ (r.sendResponses E (decide (LOG ≥ 4)) ((sock.clock sock.n).secs, (sock.clock sock.n).nanos) gs).map
          (fun y => (toGenResponder y.1 ⟨gs.drop r.requests.length, curAfter gs cur r.requests.length⟩,
            ({ sock with n := sock.n + r.requests.length, out := sock.out ++ y.2.1.map some } : Gen.Sock), ev0 ++ y.2.2)) := by
  have h := send_responses_exact E hH r gs cur sock LOG ev0
  rwa [Responder.sendResponsesF_all_ok _ hok, ← Res.map_eq_bind, Res.map_map] at h

/-- `send_responses` and the model's `sendResponsesF` end alike and, when they return, leave the same observables
    (`obsGen`, `obsModel`): responder state, pending fault-injection decisions, datagrams put on the wire or lost, in
    order, socket counter, receive queue, statistics events.  The clock is read from the socket environment
    (`SystemTime::now()` = `sock.clock sock.n`, once, before the first send) and the outcome of the k-th send of this
    call is `sock.ok dst (sock.n + k)`. -/
theorem send_responses_sim (E : Env) (hH : ∀ x, (E.H x).length = 64) (r : Responder) (gs : List Grease) (cur : Grease)
    (sock : Gen.Sock) (LOG : Nat) (ev0 : List Event) :
    (Gen.Responder.send_responses E.S E.H LOG (toGenResponder r ⟨gs, cur⟩) sock ev0).map obsGen
      ≃ᵣ (Responder.sendResponsesF (fun a k => sock.ok a (sock.n + k)) E r (decide (LOG ≥ 4))
            ((sock.clock sock.n).secs, (sock.clock sock.n).nanos) gs).map
            (obsModel sock r.requests.length gs ev0) :=
  ((send_responses_exact E hH r gs cur sock LOG ev0).map obsGen).trans (.of_eq (Res.map_map ..))

end Bridge
end Rough
