import Rough.Bridge.Message
import Rough.Bridge.Merkle
import Rough.Generated.Src.Client
import Rough.Lemmas.ClientBase
/-
  Bridge theorems for src/bin/roughenough-client.rs: the request builder (`make_request`), `receive_response` with
  `verify_framing`, and the whole response-validation path (`ResponseHandler::new`, `extract_time`, `validate_merkle`,
  `validate_midpoint`, `validate_dele`, `validate_srep`, `validate_sig`) generated from the Rust source equal, up to
  `≃ᵣ`, the hand-written client model about which C01 (soundness w.r.t. the independent authenticity predicate) and C03
  (acceptance of honest replies) are proved — for every signature scheme `S`, every SHA-512 `H` with 64-byte outputs,
  every response message, nonce, request and pinned key.  `RtMessage::clear` and `into_hash_map` of message.rs, which
  only the client calls, are bridged here too.
-/
namespace Rough
namespace Bridge
namespace Cl  -- helpers of the client bridge; of their short names `Rough.Bridge` has `map_ok`, `map_panic` already
open Rough.Client

theorem Sim.panic {α} (s t : String) : (Res.panic s : Res α) ≃ᵣ Res.panic t := Res.Sim.panic s t
theorem map_panic {α β} (t : α → β) (s : String) : (Res.panic s : Res α).map t = .panic s := Res.map_panic t s
theorem map_ok {α β} (t : α → β) (a : α) : (Res.ok a : Res α).map t = .ok (t a) := Res.map_ok t a

theorem into_hash_map_eq (m : Msg) : Gen.RtMessage.into_hash_map (toGen m) = .ok m.fields :=
  congrArg (fun x : Msg => Res.ok x.fields) (Lemmas.msg_eq_zip m).symm

theorem clear_eq (g : Gen.RtMessage) : Gen.RtMessage.clear g = .ok (toGen Msg.empty) := rfl

theorem mapIdx_get (m : Msg) (t : Tag) (site : String) : Rs.mapIdx m.fields t site = Rs.unwrapO (m.get t) site := by
  unfold Rs.mapIdx Msg.get
  cases m.fields.find? (fun e => e.1 == t) <;> rfl

theorem mapIdx_sim (m : Msg) (t : Tag) (site site' : String) : Rs.mapIdx m.fields t site ≃ᵣ field site' m t :=
  mapIdx_get m t site ▸ Rs.unwrapO_sim _ _ _

theorem field_ok_get {site : String} {m : Msg} {t : Tag} {v : Bytes} (h : field site m t = .ok v) :
    m.get t = some v :=
  Lemmas.Client.field_eq_ok.mp h

theorem parse_sim (b : Bytes) (site site' : String) :
    Rs.unwrapR (Gen.RtMessage.from_bytes b) site ≃ᵣ (fromBytesUnwrap site' b).map toGen := by
  unfold fromBytesUnwrap
  exact (Res.Rel.of_sim_map (from_bytes_sim b)).casesOn
    (motive := fun r s => Rs.unwrapR r site ≃ᵣ
      (match s with | .ok m => .ok m | .err => .panic site' | .panic s => .panic s : Res Msg).map toGen)
    (fun _ _ e => .ok e) (.panic _ _) fun _ _ => .panic _ _

theorem readU64_sim (b : Bytes) (site site' : String) :
    Rs.unwrapR (Rs.sliceReadU64 b) site ≃ᵣ readU64 site' b := by
  unfold Rs.sliceReadU64 readU64
  split
  · exact .panic _ _
  · exact .ok rfl

theorem readU32_sim (b : Bytes) (site site' : String) :
    Rs.unwrapR (Rs.sliceReadU32 b) site ≃ᵣ readU32 site' b := by
  unfold Rs.sliceReadU32 readU32
  split
  · exact .panic _ _
  · exact .ok rfl

theorem map_zero_range (n : Nat) : List.map (fun _ => (0 : UInt8)) (List.range n) = zeros n := by
  simp [zeros, List.map_const']

theorem optMapM_none {α β} (f : α → Res β) : Rs.optMapM none f = .ok none := rfl
theorem optMapM_some {α β} (a : α) (f : α → Res β) :
    Rs.optMapM (some a) f = (f a).bind fun b => .ok (some b) := rfl

theorem framing_eq : Gen.REQUEST_FRAMING_BYTES = framing := by decide

/-- `verify_framing` on a buffer that holds at least the 12-byte header -/
theorem verify_framing_eq (S : SigScheme) (H : Bytes → Bytes) (buf : Bytes) (hb : 12 ≤ buf.length) :
    Gen.verify_framing S H buf =
      if buf.take 8 ≠ framing then .err else if rd32 (buf.drop 8) > buf.length - 12 then .err else .ok () := by
  unfold Gen.verify_framing
  have h4 : ((buf.drop 8).take (12 - 8)).length = 4 := by simp; omega
  have hr : rd32 ((buf.drop 8).take (12 - 8)) = rd32 (buf.drop 8) := by simp [rd32, List.take_take]
  simp only [Res.pure_eq, Res.bind_eq, Rs.slice_ok (Nat.zero_le 8) (show 8 ≤ buf.length by omega),
    Rs.slice_ok (show 8 ≤ 12 by omega) hb, Rs.sub_ok hb, Res.bind_ok, framing_eq, List.drop_zero,
    Rs.Cursor.readU32_new _ (Nat.le_of_eq h4.symm), hr]
  by_cases h1 : buf.take 8 ≠ framing
  · rw [if_pos h1, if_pos h1]; rfl
  · rw [if_neg h1, if_neg h1]
    by_cases h2 : rd32 (buf.drop 8) > buf.length - 12
    · rw [if_pos h2, if_pos h2]; rfl
    · rw [if_neg h2, if_neg h2]

end Cl

open Rough.Client Cl
open Rough.Lemmas.Client (field_eq_ok fromBytesUnwrap_eq_ok)
open Rough.Lemmas.Keys (buildMsg_sorted)

/-- what `extract_time` returns, from the model's outcome (the model additionally carries INDX, read by `main`) -/
def toParsed (o : Client.Outcome) : Gen.ParsedResponse := ⟨o.verified, o.midpoint, o.radius⟩

theorem calc_srv_value_sim (H : Bytes → Bytes) (pk : Bytes) :
    Gen.LongTermKey.calc_srv_value H pk ≃ᵣ calcSrv H pk :=
  Rs.slice_sim _ 0 32 _ _

theorem make_request_google (S : SigScheme) (H : Bytes → Bytes) (nonce : Bytes) (td : Bool)
    (pk : Option Bytes) (sv : Option Bytes)
    (hs : (Rs.optMapM pk fun pk => Gen.LongTermKey.calc_srv_value H pk) = .ok sv) :
    Gen.make_request S H .google nonce td pk ≃ᵣ Client.makeRequest H .google nonce pk := by
  unfold Gen.make_request makeRequest
  simp only [Res.bind_eq, with_capacity_eq', Res.bind_ok_s, hs]
  add_step
  add_step
  rw [calculate_padding_length_eq _ (by simp)]
  simp only [Res.bind_ok_s, clear_eq, Msg.empty, map_zero_range, ite_self]
  add_step
  add_step
  simp only [encode_eq, Rs.unwrapR_ok]
  rw [buildMsg_sorted _ _ (by tags_sorted), Res.bind_ok, buildMsg_sorted _ _ (by tags_sorted)]
  exact .refl _

/-- the same fields are added twice, around the padding computation; with a pinned key SRV is one of them -/
theorem make_request_ietf (S : SigScheme) (H : Bytes → Bytes) (nonce : Bytes) (td : Bool) (pk : Option Bytes) :
    Gen.make_request S H .ietf nonce td pk ≃ᵣ Client.makeRequest H .ietf nonce pk := by
  unfold Gen.make_request makeRequest
  simp only [Res.bind_eq, with_capacity_eq', Res.bind_ok_s]
  cases pk with
  | none =>
    simp only [optMapM_none, Res.bind_ok_s, Option.isSome_none, Bool.false_eq_true, if_false]
    add_step
    add_step
    add_step
    rw [calculate_padding_length_eq _ (by simp)]
    simp only [Res.bind_ok_s, clear_eq, Msg.empty, map_zero_range, ite_self]
    add_step
    add_step
    add_step
    simp only [encode_framed_eq, Rs.unwrapR_ok, List.nil_append, List.cons_append]
    rw [buildMsg_sorted _ _ (by tags_sorted), Res.bind_ok, buildMsg_sorted _ _ (by tags_sorted)]
    exact .refl _
  | some p =>
    simp only [optMapM_some, Res.bind_assoc]
    refine (calc_srv_value_sim H p).bind fun sv => ?_
    simp only [Res.bind_ok_s, Option.isSome_some, if_true, Rs.unwrapO_some]
    add_step
    add_step
    add_step
    add_step
    rw [calculate_padding_length_eq _ (by simp)]
    simp only [Res.bind_ok_s, clear_eq, Msg.empty, map_zero_range, ite_self]
    add_step
    add_step
    add_step
    add_step
    simp only [encode_framed_eq, Rs.unwrapR_ok, List.nil_append, List.cons_append]
    rw [buildMsg_sorted _ _ (by tags_sorted), Res.bind_ok, buildMsg_sorted _ _ (by tags_sorted)]
    exact .refl _

/-- `make_request` (the `text_dump` flag only prints) under the weakest hypothesis on `H`: the Rust code computes
    `pub_key.map(calc_srv_value)` before the version match, so for the classic protocol with a pinned key the SRV
    slice `[0..32]` of the hash must not panic (the model ignores the key there). -/
theorem make_request_sim_of (S : SigScheme) (H : Bytes → Bytes) (ver : Version) (nonce : Bytes) (td : Bool)
    (pk : Option Bytes) (hsrv : ver = .google → ∀ p, pk = some p → 32 ≤ (H (255 :: p)).length) :
    Gen.make_request S H ver nonce td pk ≃ᵣ Client.makeRequest H ver nonce pk := by
  cases ver with
  | google =>
    cases pk with
    | none => exact make_request_google S H nonce td none none rfl
    | some p =>
      obtain ⟨s, hs⟩ : ∃ s, Gen.LongTermKey.calc_srv_value H p = .ok s :=
        ⟨_, Rs.slice_ok (Nat.zero_le _) (hsrv rfl p rfl) _⟩
      exact make_request_google S H nonce td (some p) (some s) (by rw [optMapM_some, hs]; rfl)
  | ietf => exact make_request_ietf S H nonce td pk

/-- `make_request` (the `text_dump` flag only prints), for every SHA-512 `H` with 64-byte outputs. Without `hH` the
    statement is false: `H = fun _ => []`, classic protocol, `pk = some []` makes the generated code panic at
    `longterm.rs:calc_srv_value:slice#1` while the model (which ignores the key for the classic protocol) succeeds. -/
theorem make_request_sim (S : SigScheme) (H : Bytes → Bytes) (hH : ∀ x, (H x).length = 64) (ver : Version)
    (nonce : Bytes) (td : Bool) (pk : Option Bytes) :
    Gen.make_request S H ver nonce td pk ≃ᵣ Client.makeRequest H ver nonce pk :=
  make_request_sim_of S H ver nonce td pk (fun _ p _ => by rw [hH]; omega)

/-- `receive_response` on the client's zeroed 4096-byte receive buffer holding the (possibly truncated) datagram -/
theorem receive_response_sim (S : SigScheme) (H : Bytes → Bytes) (ver : Version) (dg : Bytes) :
    Gen.receive_response S H ver (dg.take 4096 ++ zeros (4096 - (dg.take 4096).length)) (dg.take 4096).length
      ≃ᵣ (Client.receiveResponse ver dg).map toGen := by
  unfold Gen.receive_response Client.receiveResponse
  generalize hd : dg.take 4096 = d
  have hdl : d.length ≤ 4096 := by rw [← hd, List.length_take]; omega
  have hbl : (d ++ zeros (4096 - d.length)).length = 4096 := by simp [zeros]; omega
  cases ver with
  | google =>
    rw [Res.bind_eq, Rs.slice_ok (Nat.zero_le _) (by rw [hbl]; exact hdl), Res.bind_ok, List.drop_zero, Nat.sub_zero,
      List.take_left]
    exact parse_sim _ _ _
  | ietf =>
    simp only [Res.bind_eq]
    rw [verify_framing_eq S H _ (by omega), hbl]
    generalize d ++ zeros (4096 - d.length) = buf
    by_cases h1 : buf.take 8 ≠ framing
    · rw [if_pos h1, if_pos h1]; exact .panic _ _
    rw [if_neg h1, if_neg h1]
    by_cases h2 : rd32 (buf.drop 8) > 4096 - 12
    · rw [if_pos h2, if_pos h2]; exact .panic _ _
    rw [if_neg h2, if_neg h2]
    simp only [Rs.unwrapR_ok, Res.bind_ok]
    exact (Rs.slice_sim _ _ _ _ _).bind_mapR fun b _ => parse_sim _ _ _

theorem validate_sig_eq (S : SigScheme) (H : Bytes → Bytes) (h : Gen.ResponseHandler) (pk sig data : Bytes) :
    Gen.ResponseHandler.validate_sig S H h pk sig data = validateSig S pk sig data := by
  unfold Gen.ResponseHandler.validate_sig validateSig
  simp only [Res.bind_eq]

/-! The four validation steps, each against the corresponding fragment of the model, in continuation form: `k` is what
    the generated `extract_time` does next, `k'` what the model does next. -/

theorem merkle_tail {β γ : Type} {H : Bytes → Bytes} (hH : ∀ x, (H x).length = 64) {v : Version} {c : MerkleCfg}
    (hc : cfgOf H v = c) {index : Nat} {leaf paths : Bytes} {srep : Msg} {k : Unit → Res β} {k' : Res γ} {t : γ → β}
    (hk : k () ≃ᵣ k'.map t) {g1 g2 s4 s5 : String} :
    ((Gen.MerkleTree.root_from_paths H (toGenTree v Merkle.new) index leaf paths).bind fun a =>
        (Rs.mapIdx srep.fields Tag.ROOT g1).bind fun a_1 =>
          (Rs.assert (decide (a = a_1)) g2).bind fun _ => k ()) ≃ᵣ
      Res.map t ((Merkle.rootFromPaths c v.isIetf index leaf paths).bind fun hash =>
        (field s4 srep Tag.ROOT).bind fun root => if hash ≠ root then Res.panic s5 else k') := by
  subst hc
  refine Res.Sim.bind_mapR (root_from_paths_sim H hH _ _ _ _ _) (fun hash _ => ?_)
  refine Res.Sim.bind_mapR (mapIdx_sim _ _ _ _) (fun root _ => ?_)
  exact Rs.assert_bind_sim Iff.rfl fun _ => hk

theorem validate_merkle_step {β γ : Type} {S : SigScheme} {H : Bytes → Bytes} (hH : ∀ x, (H x).length = 64)
    {ver : Version} {pk : Option Bytes} {nonce request : Bytes} {msg : Msg} {srepB : Bytes} {srep : Msg}
    {certF deleF : List (Tag × Bytes)}
    (hS : msg.get Tag.SREP = some srepB) (hs : fromBytes srepB = .ok srep)
    {k : Unit → Res β} {k' : Nat → Res γ} {t : γ → β} (hk : ∀ index, k () ≃ᵣ (k' index).map t)
    {s1 s2 s3 s4 s5 : String} :
    (Gen.ResponseHandler.validate_merkle S H
        ⟨pk, msg.fields, srep.fields, certF, deleF, nonce, request, ver⟩).bind k ≃ᵣ
      Res.map t ((field s1 msg Tag.INDX).bind fun indxB =>
        (readU32 s2 indxB).bind fun index =>
          (field s3 msg Tag.PATH).bind fun paths =>
            (Merkle.rootFromPaths
                (match ver with
                  | Version.google => ⟨H, 64⟩
                  | Version.ietf => ⟨fun x => (H x).take 32, 32⟩)
                ver.isIetf index
                (match ver with
                  | Version.google => nonce
                  | Version.ietf => request)
                paths).bind fun hash =>
              (field s4 srep Tag.ROOT).bind fun root =>
                if hash ≠ root then Res.panic s5 else k' index) := by
  unfold Gen.ResponseHandler.validate_merkle
  simp only [Res.pure_eq, Res.bind_eq, Res.bind_ok, Res.bind_assoc, mapIdx_get msg Tag.SREP, hS, Rs.unwrapO_some,
    (from_bytes_sim srepB).eq_ok_of_map hs, Rs.unwrapR_ok, into_hash_map_eq, new_eq]
  refine Res.Sim.bind_mapR (mapIdx_sim _ _ _ _) (fun indxB _ => ?_)
  refine Res.Sim.bind_mapR (readU32_sim _ _ _) (fun index _ => ?_)
  refine Res.Sim.bind_mapR (mapIdx_sim _ _ _ _) (fun paths _ => ?_)
  cases ver <;>
  · simp only [Res.bind_ok]
    exact merkle_tail hH (cfgOf_eq H hH _) (hk index)

theorem validate_midpoint_step {β γ : Type} {S : SigScheme} {H : Bytes → Bytes}
    {ver : Version} {pk : Option Bytes} {nonce request : Bytes} {dele : Msg} {midpoint : Nat}
    {msgF srepF certF : List (Tag × Bytes)}
    {k : Unit → Res β} {k' : Res γ} {t : γ → β} (hk : k () ≃ᵣ k'.map t)
    {s1 s2 s3 s4 s5 s6 : String} :
    (Gen.ResponseHandler.validate_midpoint S H
        ⟨pk, msgF, srepF, certF, dele.fields, nonce, request, ver⟩ midpoint).bind k ≃ᵣ
      Res.map t ((field s1 dele Tag.MINT).bind fun mintB =>
        (readU64 s2 mintB).bind fun mint =>
          (field s3 dele Tag.MAXT).bind fun maxtB =>
            (readU64 s4 maxtB).bind fun maxt =>
              if midpoint < mint then Res.panic s5
              else if midpoint > maxt then Res.panic s6 else k') := by
  unfold Gen.ResponseHandler.validate_midpoint
  simp only [Res.pure_eq, Res.bind_eq, Res.bind_ok, Res.bind_assoc]
  refine Res.Sim.bind_mapR (mapIdx_sim _ _ _ _) (fun mintB _ => ?_)
  refine Res.Sim.bind_mapR (readU64_sim _ _ _) (fun mint _ => ?_)
  refine Res.Sim.bind_mapR (mapIdx_sim _ _ _ _) (fun maxtB _ => ?_)
  refine Res.Sim.bind_mapR (readU64_sim _ _ _) (fun maxt _ => ?_)
  exact Rs.assert_bind_sim Nat.not_le.symm fun _ => Rs.assert_bind_sim Nat.not_le.symm fun _ => hk

/-- the end of `validate_dele` and of `validate_srep`: `validate_sig`, a panic unless it says true, then the rest -/
theorem sig_tail {β : Type} {S : SigScheme} {H : Bytes → Bytes} {h : Gen.ResponseHandler} {pk sig data : Bytes}
    {k : Unit → Res β} {k' : Res β} (hk : k () ≃ᵣ k') {s s' : String} :
    ((Gen.ResponseHandler.validate_sig S H h pk sig data).bind fun a =>
        (if a = true then Res.ok () else (Res.panic s : Res Unit).bind fun _ => Res.ok ()).bind k) ≃ᵣ
      (validateSig S pk sig data).bind fun ok => if ¬ ok = true then Res.panic s' else k' := by
  rw [validate_sig_eq]
  refine Res.Sim.bind (Res.Sim.refl _) (fun ok => ?_)
  cases ok
  · exact .panic _ _
  · exact hk

theorem validate_dele_step {β : Type} {S : SigScheme} {H : Bytes → Bytes}
    {ver : Version} {p : Bytes} {nonce request : Bytes} {cert : Msg} {deleB : Bytes}
    {msgF srepF deleF : List (Tag × Bytes)} (hD : cert.get Tag.DELE = some deleB)
    {k : Unit → Res β} {k' : Res β} (hk : k () ≃ᵣ k') {s1 s2 : String} :
    (Gen.ResponseHandler.validate_dele S H
        ⟨some p, msgF, srepF, cert.fields, deleF, nonce, request, ver⟩).bind k ≃ᵣ
      (field s1 cert Tag.SIG).bind fun certSig =>
        (validateSig S p certSig (ver.delePrefix ++ deleB)).bind fun okDele =>
          if ¬ okDele then Res.panic s2 else k' := by
  unfold Gen.ResponseHandler.validate_dele
  simp only [Res.pure_eq, Res.bind_eq, Res.bind_ok, Res.bind_assoc, Rs.unwrapO_some, mapIdx_get cert Tag.DELE, hD]
  exact (mapIdx_sim _ _ _ _).bind fun certSig => sig_tail hk

theorem validate_srep_step {β : Type} {S : SigScheme} {H : Bytes → Bytes}
    {ver : Version} {pk : Option Bytes} {nonce request : Bytes} {msg dele : Msg} {srepB : Bytes}
    {srepF certF : List (Tag × Bytes)} (hS : msg.get Tag.SREP = some srepB)
    {k : Unit → Res β} {k' : Res β} (hk : k () ≃ᵣ k') {s1 s2 s3 : String} :
    (Gen.ResponseHandler.validate_srep S H
        ⟨pk, msg.fields, srepF, certF, dele.fields, nonce, request, ver⟩).bind k ≃ᵣ
      (field s1 dele Tag.PUBK).bind fun pubk =>
        (field s2 msg Tag.SIG).bind fun sig =>
          (validateSig S pubk sig (ver.srepPrefix ++ srepB)).bind fun okSrep =>
            if ¬ okSrep then Res.panic s3 else k' := by
  unfold Gen.ResponseHandler.validate_srep
  simp only [Res.pure_eq, Res.bind_eq, Res.bind_ok, Res.bind_assoc, Rs.unwrapO_some, mapIdx_get msg Tag.SREP, hS]
  exact (mapIdx_sim _ _ _ _).bind fun pubk => (mapIdx_sim _ _ _ _).bind fun sig => sig_tail hk

/-- `map[&tag]`, `RtMessage::from_bytes(..).unwrap()`, `into_hash_map()` against `field`, `fromBytesUnwrap`: the
    continuations need to agree only on a value that is in the message and parses -/
theorem nested_parse_step {β γ : Type} (m : Msg) (t : Tag) {k : List (Tag × Bytes) → Res β} {k' : Bytes → Msg → Res γ}
    {w : γ → β} {s1 s2 s3 s4 : String}
    (hk : ∀ b x, m.get t = some b → fromBytes b = .ok x → k x.fields ≃ᵣ (k' b x).map w) :
    ((Rs.mapIdx m.fields t s1).bind fun b =>
        (Rs.unwrapR (Gen.RtMessage.from_bytes b) s2).bind fun g => (Gen.RtMessage.into_hash_map g).bind k) ≃ᵣ
      ((field s3 m t).bind fun b => (fromBytesUnwrap s4 b).bind fun x => k' b x).map w := by
  refine (mapIdx_sim m t s1 s3).bind_mapR fun b hb => ?_
  refine (parse_sim b s2 s4).bind_map_map fun x hx => ?_
  rw [into_hash_map_eq, Res.bind_ok]
  exact hk b x (field_eq_ok.mp hb) (fromBytesUnwrap_eq_ok.mp hx)

/-- The whole validation path: `ResponseHandler::new(..)` followed by `extract_time()` accepts exactly the responses
    the client model accepts, with the same verified flag, midpoint and radius; otherwise both panic (the process
    exits 101 without printing a time). -/
theorem handle_sim (S : SigScheme) (H : Bytes → Bytes) (hH : ∀ x, (H x).length = 64) (ver : Version)
    (pk : Option Bytes) (nonce request : Bytes) (msg : Msg) :
    ((Gen.ResponseHandler.new S H ver pk (toGen msg) nonce request).bind
        fun h => Gen.ResponseHandler.extract_time S H h)
      ≃ᵣ (Client.handleParsed S H ver pk nonce request msg).map toParsed := by
  unfold Gen.ResponseHandler.new handleParsed
  simp only [Res.pure_eq, Res.bind_eq, into_hash_map_eq, Res.bind_ok, Res.bind_assoc]
  refine nested_parse_step msg Tag.SREP fun srepB srep hS hs => ?_
  refine nested_parse_step msg Tag.CERT fun certB cert hC hc => ?_
  refine nested_parse_step cert Tag.DELE fun deleB dele hD hd => ?_
  unfold Gen.ResponseHandler.extract_time
  simp only [Res.pure_eq, Res.bind_eq]
  refine Res.Sim.bind_mapR (mapIdx_sim _ _ _ _) (fun midpB _ => ?_)
  refine Res.Sim.bind_mapR (readU64_sim _ _ _) (fun midpoint _ => ?_)
  refine Res.Sim.bind_mapR (mapIdx_sim _ _ _ _) (fun radiB _ => ?_)
  refine Res.Sim.bind_mapR (readU32_sim _ _ _) (fun radius _ => ?_)
  refine validate_merkle_step hH hS hs fun index => ?_
  refine validate_midpoint_step ?_
  refine Res.Sim.bind_mapR ?_ (fun verified _ => Res.Sim.refl _)
  cases pk with
  | none => exact Res.Sim.refl _
  | some p => exact validate_dele_step hD (validate_srep_step hS (Res.Sim.refl _))

end Bridge
end Rough
