import Rough.Bridge.Basic
import Rough.Generated.Src.Kms
import Rough.Model.Config
/-
  Bridge theorem for `kms::load_seed` (src/kms/mod.rs, the variant compiled without a KMS feature) as regenerated from
  the Rust source: with `kms_protection: plaintext` the long-term seed the server uses IS the configured seed — nothing is
  cached, derived or looked up — and with any other protection the load fails (no KMS support compiled in). The model's
  `Server.new` takes that seed as its parameter; C10 / C12 / C20 are stated for it.
-/
namespace Rough
namespace Bridge

theorem load_seed_eq (c : Config.Cfg) :
    Gen.load_seed c = if c.kmsPlain then .ok c.seed else .err := by
  unfold Gen.load_seed
  cases c.kmsPlain <;> rfl

/-- two configurations with the same protection and seed load the same seed, whatever else differs and whatever was
    loaded before (the function has no state) -/
theorem load_seed_depends_on_seed_only (c c' : Config.Cfg) (hk : c.kmsPlain = c'.kmsPlain) (hs : c.seed = c'.seed) :
    Gen.load_seed c = Gen.load_seed c' := by
  rw [load_seed_eq, load_seed_eq, hk, hs]

end Bridge
end Rough
