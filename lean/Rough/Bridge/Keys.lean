import Rough.Bridge.Message
import Rough.Bridge.Merkle
import Rough.Generated.Src.Online
import Rough.Generated.Src.LongTerm
import Rough.Generated.Src.Responder
import Rough.Lemmas.Keys
/-
  Bridge theorems for src/key/online.rs, src/key/longterm.rs and the pure part of src/responder.rs: delegation,
  certificate, signed response (midpoint arithmetic, radius, field order, signing contexts) and response assembly
  generated from the Rust source equal, up to `≃ᵣ`, the hand-written models `makeDele`, `makeCert`, `classicMidp`,
  `makeSrep`, `makeResponse`, `Responder.reset`, `Responder.add` that C02, C09, C10, C11 are proved about —
  for every signature scheme `S`, SHA-512 `H`, key material, clock reading and Merkle root.
-/
namespace Rough
namespace Bridge
open Rough.Lemmas.Shape (deleM)

theorem bind_ok_right {α} (r : Res α) : (r.bind fun a => Res.ok a) = r := Res.bind_ok_right r

theorem sliceWrite_le32 (x : Nat) : Rs.sliceWrite (Rs.rep 0 4) (le32 x) = .ok (le32 x) :=
  Rs.sliceWrite_full (Lemmas.le32_length x).symm

theorem sliceWrite_le64 (x : Nat) : Rs.sliceWrite (Rs.rep 0 8) (le64 x) = .ok (le64 x) :=
  Rs.sliceWrite_full (Lemmas.Keys.le64_length x).symm

def toGenLtk (k : LongTermKey) : Gen.LongTermKey := ⟨k.signer, k.srv⟩

theorem ltk_calc_srv_value_sim (H : Bytes → Bytes) (pk : Bytes) :
    Gen.LongTermKey.calc_srv_value H pk ≃ᵣ calcSrv H pk :=
  Rs.slice_sim _ 0 32 _ _

theorem ltk_new_sim (S : SigScheme) (H : Bytes → Bytes) (seed : Bytes) :
    Gen.LongTermKey.new S H seed ≃ᵣ (LongTermKey.new S H seed).map toGenLtk := by
  simp only [Gen.LongTermKey.new, LongTermKey.new, Res.pure_eq, Res.bind_eq, Res.map_bind]
  refine Res.Sim.bind (Res.Sim.refl _) fun sg => ?_
  refine Res.Sim.bind (ltk_calc_srv_value_sim H _) fun srv => ?_
  exact Res.Sim.refl _

theorem ltk_public_key_eq (S : SigScheme) (H : Bytes → Bytes) (k : LongTermKey) :
    Gen.LongTermKey.public_key S H (toGenLtk k) = .ok (k.publicKey S) := by
  rfl

theorem ltk_srv_value_eq (S : SigScheme) (H : Bytes → Bytes) (k : LongTermKey) :
    Gen.LongTermKey.srv_value_fn S H (toGenLtk k) = .ok k.srv := by
  rfl

theorem make_dele_ok (S : SigScheme) (g : Gen.OnlineKey) :
    Gen.OnlineKey.make_dele S g = .ok (toGen (deleM (S.pk g.signer.seed) (le64 0) (le64 (2 ^ 64 - 1)))) := by
  -- `Res.bind_ok_s`, here and below, not the definitional `Res.bind_ok`: see its comment in Lemmas/Res.lean
  simp only [Gen.OnlineKey.make_dele, Res.pure_eq, Res.bind_eq, with_capacity_eq', Res.bind_ok_s]
  add_step
  add_step
  add_step
  rfl

theorem make_dele_sim (S : SigScheme) (g : Gen.OnlineKey) :
    Gen.OnlineKey.make_dele S g ≃ᵣ (makeDele S g.signer.seed).map toGen := by
  rw [make_dele_ok, Lemmas.Keys.makeDele_eq]; exact .refl _

theorem make_cert_sim (S : SigScheme) (H : Bytes → Bytes) (k : LongTermKey) (v : Version) (g : Gen.OnlineKey) :
    Gen.LongTermKey.make_cert S H (toGenLtk k) v g ≃ᵣ
      (makeCert S k v g.signer.seed).map (fun p => (toGen p.1, toGenLtk p.2)) := by
  simp only [Gen.LongTermKey.make_cert, Res.pure_eq, Res.bind_eq, make_dele_ok, Res.bind_ok_s, encode_eq, Rs.unwrapR_ok,
    with_capacity_eq']
  add_step
  add_step
  rw [Lemmas.Keys.makeCert_eq]
  exact .refl _

/-- `classic_midp` with the clock reading substituted (proved by rewriting, not by `rfl`/`simp only` with
    definitional lemmas: the kernel's unifier is very slow on `Rs.mulU64 _ 1000000 _ =?= Res.ok _`) -/
theorem classic_midp_eq (S : SigScheme) (g : Gen.OnlineKey) (t : Rs.Time) :
    Gen.OnlineKey.classic_midp S g t = (Rs.mulU64 t.secs 1000000 "online.rs:classic_midp:mul#1").bind fun secs =>
      Rs.addU64 secs (t.nanos / 1000) "online.rs:classic_midp:add#1" := by
  unfold Gen.OnlineKey.classic_midp
  rw [Rs.durationSinceEpoch_eq, Rs.unwrapR_ok, Res.bind_eq, Res.bind_ok]
  rfl

/-- `classic_midp`: microseconds, with the u64 overflow panics of the dev profile -/
theorem classic_midp_sim (S : SigScheme) (g : Gen.OnlineKey) (t : Rs.Time) :
    Gen.OnlineKey.classic_midp S g t ≃ᵣ classicMidp t.secs t.nanos := by
  rw [classic_midp_eq]
  unfold classicMidp Rs.mulU64
  rw [Res.ite_bind]
  refine .ite (fun _ => .panic _ _) fun _ => ?_
  rw [Res.bind_ok]
  unfold Rs.addU64
  exact .ite (fun _ => .panic _ _) fun _ => .refl _

theorem rfc_midp_eq (S : SigScheme) (g : Gen.OnlineKey) (t : Rs.Time) :
    Gen.OnlineKey.rfc_midp S g t = .ok (rfcMidp t.secs) := by
  rfl

/-- `hv`: `vers_wire_bytes` is what `OnlineKey::new` stores (`Version::supported_versions_wire()`) -/
theorem make_srep_sim (S : SigScheme) (g : Gen.OnlineKey) (hv : g.vers_wire_bytes = Version.supportedWire)
    (v : Version) (t : Rs.Time) (root : Bytes) :
    Gen.OnlineKey.make_srep S g v t root ≃ᵣ
      (makeSrep S g.signer v t.secs t.nanos root).map (fun p => (toGen p.1, { g with signer := p.2 })) := by
  -- Both sides build the inner SREP field by field, encode it, sign it and build {SIG, SREP} the same way; the model's
  -- two `buildMsg` return their literal lists (`buildMsg_sorted`).  Classic: the midpoint in microseconds can overflow
  -- (`classic_midp_sim`).  IETF: seconds cannot, and SREP also carries VER and VERS.
  cases v
  · simp only [Gen.OnlineKey.make_srep, Res.pure_eq, Res.bind_eq, Res.bind_ok_s, sliceWrite_le32, Rs.unwrapR_ok, if_true]
    simp only [makeSrep, midpOf, Res.map_bind]
    refine Res.Sim.bind (classic_midp_sim S g t) fun a => ?_
    simp only [sliceWrite_le64, Rs.unwrapR_ok, Res.bind_ok_s, with_capacity_eq']
    add_step
    add_step
    add_step
    simp only [encode_eq, Rs.unwrapR_ok, Res.bind_ok_s]
    add_step
    add_step
    -- `tags_sorted`: the macro of Lemmas/KeysBasic.lean for the tags of a literal field list
    rw [Lemmas.Keys.buildMsg_sorted _ _ (by tags_sorted)]
    simp only [Res.bind_ok_s]
    rw [Lemmas.Keys.buildMsg_sorted _ _ (by tags_sorted)]
    exact Res.Sim.refl _
  · simp only [Gen.OnlineKey.make_srep, Res.pure_eq, Res.bind_eq, Res.bind_ok_s, sliceWrite_le32, Rs.unwrapR_ok, rfc_midp_eq,
      reduceCtorEq, if_false, sliceWrite_le64, with_capacity_eq', hv]
    simp only [makeSrep, midpOf, Res.bind_ok_s]
    add_step
    add_step
    add_step
    add_step
    add_step
    simp only [encode_eq, Rs.unwrapR_ok, Res.bind_ok_s]
    add_step
    add_step
    rw [Lemmas.Keys.buildMsg_sorted _ _ (by tags_sorted)]
    simp only [Res.bind_ok_s]
    rw [Lemmas.Keys.buildMsg_sorted _ _ (by tags_sorted)]
    exact Res.Sim.refl _

/-- generated responder of a model responder, with the state of its fault-injection queue -/
def toGenResponder (r : Responder) (g : Gen.GreaseQ := default) : Gen.Responder :=
  ⟨r.ver, ⟨r.onl, Version.supportedWire⟩, r.cert, r.requests, toGenTree r.ver r.tree, g⟩

/-- `Responder::make_response` (INDX is a u32) -/
theorem make_response_sim (S : SigScheme) (H : Bytes → Bytes) (g : Gen.Responder) (srep : Msg) (cert path : Bytes)
    (idx : Nat) (nonce : Bytes) :
    Gen.Responder.make_response S H g (toGen srep) cert path idx nonce ≃ᵣ
      (makeResponse srep cert path idx nonce).map toGen := by
  simp only [Gen.Responder.make_response, makeResponse, Res.pure_eq, Res.bind_eq, Res.bind_ok_s, sliceWrite_le32, Rs.unwrapR_ok,
    get_field_eq]
  refine (Rs.unwrapO_sim _ _ _).bind_mapR fun sig _ => ?_
  refine (Rs.unwrapO_sim _ _ _).bind_mapR fun srepB _ => ?_
  simp only [with_capacity_eq', Res.bind_ok_s]
  add_step
  add_step
  add_step
  add_step
  add_step
  add_step
  rw [Lemmas.Keys.buildMsg_sorted _ _ (by tags_sorted)]
  exact .refl _

/-! ### the responder's small operations, for any fault-injection queue `g` it carries -/

theorem responder_reset_eq' (S : SigScheme) (H : Bytes → Bytes) (r : Responder) (g : Gen.GreaseQ) :
    Gen.Responder.reset S H (toGenResponder r g) = .ok (toGenResponder (Responder.reset r) g) := by
  simp only [Gen.Responder.reset, toGenResponder, Res.pure_eq, Res.bind_eq, reset_eq, Res.bind_ok_s]
  rfl

theorem responder_reset_eq (S : SigScheme) (H : Bytes → Bytes) (r : Responder) :
    Gen.Responder.reset S H (toGenResponder r) = .ok (toGenResponder (Responder.reset r)) :=
  responder_reset_eq' S H r default

theorem responder_is_empty_eq' (S : SigScheme) (H : Bytes → Bytes) (r : Responder) (g : Gen.GreaseQ) :
    Gen.Responder.is_empty S H (toGenResponder r g) = .ok r.requests.isEmpty := rfl

theorem responder_is_empty_eq (S : SigScheme) (H : Bytes → Bytes) (r : Responder) :
    Gen.Responder.is_empty S H (toGenResponder r) = .ok r.requests.isEmpty :=
  responder_is_empty_eq' S H r default

/-- `add_classic_request` (leaf = nonce) -/
theorem add_classic_request_sim' (E : Env) (hH : ∀ x, (E.H x).length = 64) (r : Responder) (g : Gen.GreaseQ)
    (nonce : Bytes) (src : Stats.Addr) :
    Gen.Responder.add_classic_request E.S E.H (toGenResponder r g) nonce src ≃ᵣ
      (Responder.add E r nonce nonce src).map (fun r' => toGenResponder r' g) := by
  simp only [Gen.Responder.add_classic_request, Responder.add, toGenResponder, Res.pure_eq, Res.bind_eq, Res.map_bind,
    mcfg_eq E hH]
  exact (push_leaf_sim E.H hH r.ver r.tree nonce).bind_map fun b _ => .refl _

theorem add_classic_request_sim (E : Env) (hH : ∀ x, (E.H x).length = 64) (r : Responder)
    (nonce : Bytes) (src : Stats.Addr) :
    Gen.Responder.add_classic_request E.S E.H (toGenResponder r) nonce src ≃ᵣ
      (Responder.add E r nonce nonce src).map toGenResponder :=
  add_classic_request_sim' E hH r default nonce src

/-- `add_ietf_request` (leaf = the whole datagram) -/
theorem add_ietf_request_sim' (E : Env) (hH : ∀ x, (E.H x).length = 64) (r : Responder) (g : Gen.GreaseQ)
    (data nonce : Bytes) (src : Stats.Addr) :
    Gen.Responder.add_ietf_request E.S E.H (toGenResponder r g) data nonce src ≃ᵣ
      (Responder.add E r data nonce src).map (fun r' => toGenResponder r' g) := by
  simp only [Gen.Responder.add_ietf_request, Responder.add, toGenResponder, Res.pure_eq, Res.bind_eq, Res.map_bind,
    mcfg_eq E hH]
  exact (push_leaf_sim E.H hH r.ver r.tree data).bind_map fun b _ => .refl _

theorem add_ietf_request_sim (E : Env) (hH : ∀ x, (E.H x).length = 64) (r : Responder)
    (data nonce : Bytes) (src : Stats.Addr) :
    Gen.Responder.add_ietf_request E.S E.H (toGenResponder r) data nonce src ≃ᵣ
      (Responder.add E r data nonce src).map toGenResponder :=
  add_ietf_request_sim' E hH r default data nonce src

end Bridge
end Rough
