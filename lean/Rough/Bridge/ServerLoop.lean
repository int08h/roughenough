import Rough.Bridge.SendResponses
import Rough.Bridge.Request
import Rough.Generated.Src.Server
/-
  Bridge theorems for the datagram path of src/server.rs: `Server::collect_requests` and `Server::service_socket`
  generated from the Rust source, against the model's `Server.collect` / `Server.pass` (about which C07, C08, C09, C17
  are proved) and the 16-batch bound with the backlog flag (C19, C18; `EventLoop.serviceSocket`).
  Environment (Rough/Gen/ServerExt.lean): the socket holds the receive queue `inq`, every send succeeds (`ok = true`,
  loopback — failing sends are `send_responses_sim`), no datagram arrives while the call runs, the clock is the
  socket's `clock`.  Fault-injection decisions are the responders' `grease.pending` lists.
-/
namespace Rough
namespace Bridge
open Rough.Stats

/-- the fields of the generated server that the datagram path (`collect_requests`, `service_socket`) never reads or writes -/
structure GenRest where
  health_listener : Option Unit := none
  poll_duration : Option Rs.Time := none
  poll : Gen.Poll := {}
  thread_name : String := ""
  stats_pub_freq : Rs.Time := ⟨0, 0⟩
  stats_pub_timer : List Rs.Time := []
  stats_queue : List (List Gen.ClientStats) := []
  tcp : Gen.Tcp := {}
  recorder_kind : Option Nat := none

/-- the generated server of a model server with its environment -/
def toGenServer (x : GenRest) (s : Server) (sock : Gen.Sock) (buf : Bytes) (backlog : Bool) (ev : List Event)
    (gI gC : Gen.GreaseQ) : Gen.Server :=
  { batch_size := s.batchSize, socket := sock, health_listener := x.health_listener,
    poll_duration := x.poll_duration, poll := x.poll,
    responder_ietf := toGenResponder s.ietf gI, responder_classic := toGenResponder s.classic gC,
    buf := buf, thread_name := x.thread_name, srv_value := s.srv, socket_backlog := backlog,
    stats_pub_freq := x.stats_pub_freq, stats_pub_timer := x.stats_pub_timer, stats_recorder := ev,
    stats_queue := x.stats_queue, tcp := x.tcp, recorder_kind := x.recorder_kind }

/-- the part of a generated server state that `GenRest` describes -/
def restOf (g : Gen.Server) : GenRest :=
  { health_listener := g.health_listener, poll_duration := g.poll_duration, poll := g.poll,
    thread_name := g.thread_name, stats_pub_freq := g.stats_pub_freq, stats_pub_timer := g.stats_pub_timer,
    stats_queue := g.stats_queue, tcp := g.tcp, recorder_kind := g.recorder_kind }

theorem restOf_toGenServer (x : GenRest) (s : Server) (sock : Gen.Sock) (buf : Bytes) (backlog : Bool) (ev : List Event)
    (gI gC : Gen.GreaseQ) : restOf (toGenServer x s sock buf backlog ev gI gC) = x := rfl

theorem restOf_backlog (g : Gen.Server) (b : Bool) : restOf { g with socket_backlog := b } = restOf g := rfl

/-- what is observable of a generated server state (the receive buffer's stale content is not) -/
def obsServer (g : Gen.Server) :
    Nat × (Version × Gen.OnlineKey × Bytes × List (Bytes × Nat) × Gen.MerkleTree × List Grease) ×
      (Version × Gen.OnlineKey × Bytes × List (Bytes × Nat) × Gen.MerkleTree × List Grease) × Bytes × Bool ×
      List (Option Sent) × Nat × List (Bytes × Addr) × Nat × List Event :=
  (g.batch_size,
   (g.responder_ietf.version, g.responder_ietf.online_key, g.responder_ietf.cert_bytes, g.responder_ietf.requests,
    g.responder_ietf.merkle, g.responder_ietf.grease.pending),
   (g.responder_classic.version, g.responder_classic.online_key, g.responder_classic.cert_bytes,
    g.responder_classic.requests, g.responder_classic.merkle, g.responder_classic.grease.pending),
   g.srv_value, g.socket_backlog, g.socket.out, g.socket.n, g.socket.inq, g.buf.length, g.stats_recorder)

theorem obsServer_buf (g : Gen.Server) (b : Bytes) (h : b.length = g.buf.length) :
    obsServer { g with buf := b } = obsServer g := by
  simp only [obsServer, h]

/-- datagrams as the model sees them -/
def toDatagrams (q : List (Bytes × Addr)) : List Datagram := q.map fun p => ⟨p.2, p.1⟩

/-- the receive buffer after the datagrams `q` were received into it, oldest first -/
def bufAfter (buf : Bytes) (q : List (Bytes × Addr)) : Bytes :=
  q.foldl (fun b p => p.1 ++ b.drop p.1.length) buf

@[simp] theorem bufAfter_nil (buf : Bytes) : bufAfter buf [] = buf := rfl
@[simp] theorem bufAfter_cons (buf : Bytes) (p : Bytes × Addr) (q : List (Bytes × Addr)) :
    bufAfter buf (p :: q) = bufAfter (p.1 ++ buf.drop p.1.length) q := rfl

theorem recv_length (d buf : Bytes) (h : d.length ≤ buf.length) : (d ++ buf.drop d.length).length = buf.length := by
  simp only [List.length_append, List.length_drop]; omega

theorem bufAfter_length (q : List (Bytes × Addr)) : ∀ (buf : Bytes), (∀ p ∈ q, p.1.length ≤ buf.length) →
    (bufAfter buf q).length = buf.length := by
  induction q with
  | nil => intro buf _; rfl
  | cons p q ih =>
    intro buf h
    have hp := h p (List.mem_cons_self ..)
    rw [bufAfter_cons, ih _ (fun x hx => by rw [recv_length _ _ hp]; exact h x (List.mem_cons_of_mem _ hx)),
      recv_length _ _ hp]

theorem recv_take (d buf : Bytes) : (d ++ buf.drop d.length).take d.length = d := by
  simp

/-- how `collect_requests` finishes after its loop -/
def collectPost (f : Rs.Flow Gen.Server (Bool × Gen.Server)) : Bool × Gen.Server :=
  match f with
  | .ret v => v
  | .next n => (false, n)
  | .brk n => (false, n)

theorem collect_loop (E : Env) (x : GenRest) (backlog : Bool) (gI gC : Gen.GreaseQ)
    (body : Nat → Gen.Server → Res (Rs.Flow Gen.Server (Bool × Gen.Server)))
    (hempty : ∀ i s sock buf ev, sock.inq = [] →
      body i (toGenServer x s sock buf backlog ev gI gC) = .ok (.ret (true, toGenServer x s sock buf backlog ev gI gC)))
    (hcons : ∀ i s sock buf ev d a rest, sock.inq = (d, a) :: rest → d.length ≤ buf.length →
      body i (toGenServer x s sock buf backlog ev gI gC) ≃ᵣ
        (Server.collectOne E s ⟨a, d⟩).map (fun y => Rs.Flow.next
          (toGenServer x y.1 { sock with inq := rest } (d ++ buf.drop d.length) backlog (ev ++ [y.2]) gI gC))) :
    ∀ (l : List Nat) (s : Server) (sock : Gen.Sock) (buf : Bytes) (ev : List Event),
      (∀ p ∈ sock.inq, p.1.length ≤ buf.length) →
      (Rs.forListR l (toGenServer x s sock buf backlog ev gI gC) body).map collectPost ≃ᵣ
        (Server.collect E s (toDatagrams (sock.inq.take l.length))).map (fun y =>
          (decide (sock.inq.length < l.length),
            toGenServer x y.1 { sock with inq := sock.inq.drop l.length } (bufAfter buf (sock.inq.take l.length)) backlog
              (ev ++ y.2) gI gC)) := by
  intro l
  induction l with
  | nil => intro s sock buf ev _; exact .of_eq (by simp [Server.collect, toDatagrams, collectPost])
  | cons i l ih =>
    intro s sock buf ev hfit
    obtain ⟨ok, n, out, inq, clk⟩ := sock
    rw [Rs.forListR_cons_bind, Res.map_bind]
    cases inq with
    | nil => rw [hempty i s _ buf ev rfl]; exact .of_eq (by simp [Server.collect, toDatagrams, collectPost])
    | cons p rest =>
      obtain ⟨d, a⟩ := p
      have hd : d.length ≤ buf.length := hfit (d, a) (List.mem_cons_self ..)
      simp only [List.length_cons, List.take_succ_cons, toDatagrams, List.map_cons, Server.collect, Res.map_bind]
      refine (hcons i s ⟨ok, n, out, (d, a) :: rest, clk⟩ buf ev d a rest rfl hd).bind_map fun y _ => ?_
      refine (ih y.1 ⟨ok, n, out, rest, clk⟩ _ (ev ++ [y.2]) fun p hp => ?_).trans (.of_eq ?_)
      · rw [recv_length _ _ hd]; exact hfit p (List.mem_cons_of_mem _ hp)
      · simp [toDatagrams, Res.map_eq_bind]

/-- exact form of `collect_requests_sim`: the whole server state afterwards -/
theorem collect_requests_exact (E : Env) (hH : ∀ z, (E.H z).length = 64) (LOG : Nat) (x : GenRest) (s : Server) (sock : Gen.Sock)
    (buf : Bytes) (backlog : Bool) (ev : List Event) (gI gC : Gen.GreaseQ)
    (hfit : ∀ p ∈ sock.inq, p.1.length ≤ buf.length) :
    Gen.Server.collect_requests E.S E.H LOG (toGenServer x s sock buf backlog ev gI gC)
      ≃ᵣ (Server.collect E s (toDatagrams (sock.inq.take s.batchSize))).map
        (fun y => (decide (sock.inq.length < s.batchSize),
          toGenServer x y.1 { sock with inq := sock.inq.drop s.batchSize } (bufAfter buf (sock.inq.take s.batchSize))
            backlog (ev ++ y.2) gI gC)) := by
  unfold Gen.Server.collect_requests
  simp only [Res.pure_eq, Res.bind_eq]
  rw [Res.bind_eq_map (f := collectPost) _ fun x => by cases x <;> rfl]
  refine (collect_loop E x backlog gI gC _ ?hempty ?hcons (List.range s.batchSize) s sock buf ev hfit).trans ?fin
  case fin => rw [List.length_range]; exact .refl _
  case hempty =>
    intro i s sock buf ev hq
    simp only [toGenServer, Gen.Sock.recvFrom, hq]
  case hcons =>
    intro i s sock buf ev d a rest hq hd
    have hlen : d.length ≤ (d ++ buf.drop d.length).length := by simp
    have hn := nonce_from_request_sim (d ++ buf.drop d.length) d.length s.srv hlen
    rw [recv_take] at hn
    simp only [toGenServer, Gen.Sock.recvFrom, hq, List.take_of_length_le hd, Server.collectOne]
    refine hn.casesOn (fun ⟨nonce, v⟩ => ?_) (.refl _) (fun _ _ => .panic _ _)
    cases v with
    | ietf =>
      simp only [Rs.sliceTo_ok hlen, recv_take, Res.bind_ok_s, Res.map_bind]
      exact (add_ietf_request_sim' E hH s.ietf gI d nonce a).bind_map fun b _ => .refl _
    | google =>
      simp only [Res.map_bind]
      exact (add_classic_request_sim' E hH s.classic gC nonce a).bind_map fun b _ => .refl _

/-- `collect_requests`: reads `min(batch_size, |inq|)` datagrams, classifies each with the model's request classifier,
    queues it on the right responder and records the event; returns `true` iff the queue ran dry (WouldBlock) before
    `batch_size` datagrams were read.  Every queued datagram fits in the receive buffer. -/
theorem collect_requests_sim (E : Env) (hH : ∀ z, (E.H z).length = 64) (LOG : Nat) (x : GenRest) (s : Server) (sock : Gen.Sock) (buf : Bytes)
    (backlog : Bool) (ev : List Event) (gI gC : Gen.GreaseQ)
    (hfit : ∀ p ∈ sock.inq, p.1.length ≤ buf.length) :
    (Gen.Server.collect_requests E.S E.H LOG (toGenServer x s sock buf backlog ev gI gC)).map
        (fun x => (x.1, obsServer x.2))
      ≃ᵣ (Server.collect E s (toDatagrams (sock.inq.take s.batchSize))).map
        (fun y => (decide (sock.inq.length < s.batchSize),
          obsServer (toGenServer x y.1 { sock with inq := sock.inq.drop s.batchSize } buf backlog (ev ++ y.2) gI gC))) := by
  refine ((collect_requests_exact E hH LOG x s sock buf backlog ev gI gC hfit).map _).trans (.of_eq ?_)
  rw [Res.map_map]
  exact congrArg (Res.map · _) (funext fun y => congrArg (Prod.mk _) (obsServer_buf (toGenServer x y.1 _ buf _ _ _ _) _
    (bufAfter_length _ _ fun p hp => hfit p (List.mem_of_mem_take hp))))

/-- one batch of `service_socket` as the model's `Server.pass` on the next chunk, with the clock readings and
    fault-injection decisions taken from the environment; returns the model outputs and the environment afterwards -/
def batchSpec (E : Env) (debug : Bool) (s : Server) (sock : Gen.Sock) (gI gC : List Grease) :
    Res (Server × List Sent × List Event) :=
  let chunk := toDatagrams (sock.inq.take s.batchSize)
  -- the IETF batch is sent first: its clock reading is taken at `sock.n`, the classic one after the IETF sends
  (Server.collect E { s with ietf := s.ietf.reset, classic := s.classic.reset } chunk).bind fun (s1, _) =>
  let nI := s1.ietf.requests.length
  Server.pass E debug s
    { chunk := chunk,
      nowIetf := ((sock.clock sock.n).secs, (sock.clock sock.n).nanos),
      nowClassic := ((sock.clock (sock.n + nI)).secs, (sock.clock (sock.n + nI)).nanos),
      greaseIetf := gI, greaseClassic := gC }

/-- `service_socket` as at most `M` model passes over consecutive chunks of the receive queue; stops after the first
    chunk shorter than `batch_size` (backlog flag cleared), or after `M` full chunks (flag set) -/
def serviceSpec (E : Env) (debug : Bool) : Nat → Server → Gen.Sock → List Grease → List Grease →
    Res (Server × Bool × List Sent × List Event × List (Bytes × Addr) × List Grease × List Grease)
  | 0, s, sock, gI, gC => .ok (s, true, [], [], sock.inq, gI, gC)
  | M + 1, s, sock, gI, gC =>
    (batchSpec E debug s sock gI gC).bind fun (s', sent, ev) =>
    let nI := s'.ietf.requests.length
    let nC := s'.classic.requests.length
    let sock' : Gen.Sock := { sock with inq := sock.inq.drop s.batchSize, n := sock.n + sent.length,
                                        out := sock.out ++ sent.map some }
    if sock.inq.length < s.batchSize then .ok (s', false, sent, ev, sock'.inq, gI.drop nI, gC.drop nC)
    else (serviceSpec E debug M s' sock' (gI.drop nI) (gC.drop nC)).bind fun (s'', bl, sent', ev', q, gI', gC') =>
      .ok (s'', bl, sent ++ sent', ev ++ ev', q, gI', gC')

/-- how `service_socket` finishes after its loop -/
def servicePost (f : Rs.Flow Gen.Server Gen.Server) : Gen.Server :=
  match f with
  | .ret v => v
  | .next n => { n with socket_backlog := true }
  | .brk n => { n with socket_backlog := true }

/-- the socket after a batch that put `sent` on the wire -/
def sockAfter (s : Server) (sock : Gen.Sock) (sent : List Sent) : Gen.Sock :=
  { sock with inq := sock.inq.drop s.batchSize, n := sock.n + sent.length, out := sock.out ++ sent.map some }

/-- the generated server after one batch whose model outputs are `y` -/
def afterBatch (x : GenRest) (s : Server) (sock : Gen.Sock) (buf : Bytes) (backlog : Bool) (ev : List Event)
    (gI gC : List Grease) (cI cC : Grease) (y : Server × List Sent × List Event) : Gen.Server :=
  toGenServer x y.1 (sockAfter s sock y.2.1) (bufAfter buf (sock.inq.take s.batchSize)) backlog (ev ++ y.2.2)
    ⟨gI.drop y.1.ietf.requests.length, curAfter gI cI y.1.ietf.requests.length⟩
    ⟨gC.drop y.1.classic.requests.length, curAfter gC cC y.1.classic.requests.length⟩

/-- `batchSpec` as one chain: collect, IETF batch, classic batch -/
def batchChain (E : Env) (debug : Bool) (s : Server) (sock : Gen.Sock) (gI gC : List Grease) :
    Res (Server × List Sent × List Event) :=
  (Server.collect E { s with ietf := s.ietf.reset, classic := s.classic.reset }
      (toDatagrams (sock.inq.take s.batchSize))).bind fun y1 =>
  (y1.1.ietf.sendResponses E debug ((sock.clock sock.n).secs, (sock.clock sock.n).nanos) gI).bind fun yI =>
  (y1.1.classic.sendResponses E debug
      ((sock.clock (sock.n + y1.1.ietf.requests.length)).secs, (sock.clock (sock.n + y1.1.ietf.requests.length)).nanos)
      gC).bind fun yC =>
  .ok ({ y1.1 with ietf := yI.1, classic := yC.1 }, yI.2.1 ++ yC.2.1, y1.2 ++ yI.2.2 ++ yC.2.2)

theorem bind_dup {α β} (x : Res α) (g : α → α → Res β) : (x.bind fun a => x.bind (g a)) = x.bind fun a => g a a := by
  cases x <;> rfl

theorem map_eq_bind {α β} (r : Res α) (f : α → β) : r.map f = r.bind fun a => .ok (f a) :=
  Res.map_eq_bind r f

theorem batchSpec_eq (E : Env) (debug : Bool) (s : Server) (sock : Gen.Sock) (gI gC : List Grease) :
    batchSpec E debug s sock gI gC = batchChain E debug s sock gI gC := by
  unfold batchSpec batchChain Server.pass
  have ht : (toDatagrams (sock.inq.take s.batchSize)).take s.batchSize = toDatagrams (sock.inq.take s.batchSize) := by
    apply List.take_of_length_le
    simp only [toDatagrams, List.length_map, List.length_take]
    exact Nat.min_le_left _ _
  simp only [ht]
  -- `batchSpec` collects once for the number of IETF requests and `Server.pass` collects again
  exact bind_dup _ _

/-- The generated server states a `serviceSpec` result `y` stands for: the image of the model server with the socket
    advanced by what was received and sent, the flag, the events appended and the remaining fault-injection decisions.
    The stale content of the receive buffer and the decisions drawn last are whatever the call left (the remaining
    queue still fits the buffer). -/
def SvcImage (x : GenRest) (sock : Gen.Sock) (ev : List Event) (g' : Gen.Server)
    (y : Server × Bool × List Sent × List Event × List (Bytes × Addr) × List Grease × List Grease) : Prop :=
  ∃ buf' cI' cC', g' = toGenServer x y.1
      { sock with inq := y.2.2.2.2.1, n := sock.n + y.2.2.1.length, out := sock.out ++ y.2.2.1.map some } buf' y.2.1
      (ev ++ y.2.2.2.1) ⟨y.2.2.2.2.2.1, cI'⟩ ⟨y.2.2.2.2.2.2, cC'⟩ ∧
    ∀ p ∈ y.2.2.2.2.1, p.1.length ≤ buf'.length

theorem service_loop (E : Env) (debug : Bool) (x : GenRest)
    (body : Nat → Gen.Server → Res (Rs.Flow Gen.Server Gen.Server))
    (hbody : ∀ i s sock buf backlog ev gI gC cI cC, (∀ a k, sock.ok a k = true) →
      (∀ p ∈ sock.inq, p.1.length ≤ buf.length) →
      body i (toGenServer x s sock buf backlog ev ⟨gI, cI⟩ ⟨gC, cC⟩) ≃ᵣ
        (batchSpec E debug s sock gI gC).map fun y =>
          if sock.inq.length < s.batchSize then Rs.Flow.ret (afterBatch x s sock buf false ev gI gC cI cC y)
          else Rs.Flow.next (afterBatch x s sock buf backlog ev gI gC cI cC y)) :
    ∀ (l : List Nat) (s : Server) (sock : Gen.Sock) (buf : Bytes) (backlog : Bool) (ev : List Event)
      (gI gC : List Grease) (cI cC : Grease), (∀ a k, sock.ok a k = true) →
      (∀ p ∈ sock.inq, p.1.length ≤ buf.length) →
      Res.Rel (fun f y => SvcImage x sock ev (servicePost f) y)
        (Rs.forListR l (toGenServer x s sock buf backlog ev ⟨gI, cI⟩ ⟨gC, cC⟩) body)
        (serviceSpec E debug l.length s sock gI gC) := by
  intro l
  induction l with
  | nil =>
    intro s sock buf backlog ev gI gC cI cC _ hfit
    exact .ok ⟨buf, cI, cC, by simp [servicePost, toGenServer], hfit⟩
  | cons i l ih =>
    intro s sock buf backlog ev gI gC cI cC hok hfit
    rw [Rs.forListR_cons_bind]
    simp only [List.length_cons, serviceSpec]
    have hfit' : ∀ p ∈ sock.inq.drop s.batchSize, p.1.length ≤ (bufAfter buf (sock.inq.take s.batchSize)).length := by
      intro p hp
      rw [bufAfter_length _ _ fun p hp => hfit p (List.mem_of_mem_take hp)]
      exact hfit p (List.mem_of_mem_drop hp)
    refine (Res.Rel.of_sim_map (hbody i s sock buf backlog ev gI gC cI cC hok hfit)).bind ?_
    rintro st ⟨s', sent, ev'⟩ rfl
    by_cases hshort : sock.inq.length < s.batchSize
    · simp only [hshort, if_true]
      exact .ok ⟨_, curAfter gI cI s'.ietf.requests.length, curAfter gC cC s'.classic.requests.length, rfl, hfit'⟩
    · simp only [hshort, if_false]
      refine (ih s' (sockAfter s sock sent) _ backlog (ev ++ ev') _ _ (curAfter gI cI s'.ietf.requests.length)
        (curAfter gC cC s'.classic.requests.length) hok hfit').bind_right ?_
      rintro f ⟨s'', bl, sent', ev'', q, gI', gC'⟩ ⟨buf', cI', cC', h, hf⟩
      exact .ok ⟨buf', cI', cC', by simp [h, sockAfter, Nat.add_assoc, List.append_assoc], hf⟩

/-- `service_socket` = `serviceSpec 16`: when both return, the server afterwards is an image (`SvcImage`) of the
    specification's result — same model server, backlog flag, datagrams on the wire, remaining queue, statistics
    events, pending fault-injection decisions, and every field the datagram path does not touch (`GenRest`) as before;
    all sends succeed, every queued datagram fits in the buffer. -/
theorem service_socket_full (E : Env) (hH : ∀ z, (E.H z).length = 64) (LOG : Nat) (x : GenRest) (s : Server) (sock : Gen.Sock) (buf : Bytes)
    (backlog : Bool) (ev : List Event) (gI gC : List Grease) (cI cC : Grease)
    (hok : ∀ a k, sock.ok a k = true) (hfit : ∀ p ∈ sock.inq, p.1.length ≤ buf.length) :
    Res.Rel (SvcImage x sock ev)
      (Gen.Server.service_socket E.S E.H LOG (toGenServer x s sock buf backlog ev ⟨gI, cI⟩ ⟨gC, cC⟩))
      (serviceSpec E (decide (LOG ≥ 4)) 16 s sock gI gC) := by
  unfold Gen.Server.service_socket
  simp only [Res.pure_eq, Res.bind_eq]
  rw [Res.bind_eq_map (f := servicePost) _ fun f => by cases f <;> rfl]
  refine Res.Rel.map_left_iff.mpr ?_
  refine (List.length_range (n := 16)) ▸ service_loop E (decide (LOG ≥ 4)) x _ ?hbody (List.range 16) s sock buf backlog
    ev gI gC cI cC hok hfit
  intro i s sock buf backlog ev gI gC cI cC hok hfit
  simp only [toGenServer, responder_reset_eq', Res.bind_ok_s]
  rw [batchSpec_eq]
  unfold batchChain
  simp only [Res.map_bind]
  refine (collect_requests_exact E hH LOG x { s with ietf := s.ietf.reset, classic := s.classic.reset } sock buf
    backlog ev ⟨gI, cI⟩ ⟨gC, cC⟩ hfit).bind_map fun y1 _ => ?_
  dsimp only [toGenServer]
  refine (send_responses_all_ok E hH y1.1.ietf gI cI
    ⟨sock.ok, sock.n, sock.out, sock.inq.drop s.batchSize, sock.clock⟩ LOG (ev ++ y1.2) fun a k => hok a _).bind_map
    fun yI hyI => ?_
  have hqI := (Responder.sendResponses_ok_inv hyI).1
  have hlI := Responder.sendResponses_ok_length hyI
  refine (send_responses_all_ok E hH y1.1.classic gC cC
    ⟨sock.ok, sock.n + y1.1.ietf.requests.length, sock.out ++ yI.2.1.map some, sock.inq.drop s.batchSize, sock.clock⟩
    LOG (ev ++ y1.2 ++ yI.2.2) fun a k => hok a _).bind_map fun yC hyC => ?_
  have hqC := (Responder.sendResponses_ok_inv hyC).1
  have hlC := Responder.sendResponses_ok_length hyC
  -- the generated state advances the send counter and the decision lists by the queue lengths before sending, the
  -- specification by the datagrams sent (`hlI`, `hlC`: one per request) and the queues after (`hqI`, `hqC`: unchanged)
  by_cases hshort : sock.inq.length < s.batchSize <;>
    simp [hshort, afterBatch, sockAfter, toGenServer, hlI, hqI, hlC, hqC, Nat.add_assoc]

/-- `service_socket` = `serviceSpec 16` on the listed observables: same request queues, Merkle trees, online keys and
    pending fault-injection decisions of both responders afterwards, same backlog flag, same datagrams on the wire in
    the same order, same statistics events, same remaining queue — for every server state, queue content, clock,
    fault-injection decisions and log level (all sends succeed, every queued datagram fits in the buffer).  The whole
    state afterwards is `service_socket_full`. -/
theorem service_socket_sim (E : Env) (hH : ∀ z, (E.H z).length = 64) (LOG : Nat) (x : GenRest) (s : Server) (sock : Gen.Sock) (buf : Bytes)
    (backlog : Bool) (ev : List Event) (gI gC : List Grease) (cI cC : Grease)
    (hok : ∀ a k, sock.ok a k = true) (hfit : ∀ p ∈ sock.inq, p.1.length ≤ buf.length) :
    (Gen.Server.service_socket E.S E.H LOG (toGenServer x s sock buf backlog ev ⟨gI, cI⟩ ⟨gC, cC⟩)).map
        (fun g => (g.socket_backlog, g.socket.out, g.socket.inq, g.stats_recorder, g.responder_ietf.requests,
                   g.responder_classic.requests, g.responder_ietf.merkle, g.responder_classic.merkle,
                   g.responder_ietf.online_key, g.responder_classic.online_key,
                   g.responder_ietf.grease.pending, g.responder_classic.grease.pending))
      ≃ᵣ (serviceSpec E (decide (LOG ≥ 4)) 16 s sock gI gC).map
        (fun y => (y.2.1, sock.out ++ y.2.2.1.map some, y.2.2.2.2.1, ev ++ y.2.2.2.1, y.1.ietf.requests, y.1.classic.requests,
                   toGenTree y.1.ietf.ver y.1.ietf.tree, toGenTree y.1.classic.ver y.1.classic.tree,
                   (⟨y.1.ietf.onl, Version.supportedWire⟩ : Gen.OnlineKey), (⟨y.1.classic.onl, Version.supportedWire⟩ : Gen.OnlineKey),
                   y.2.2.2.2.2.1, y.2.2.2.2.2.2)) :=
  Res.Rel.map_sim_iff.mpr ((service_socket_full E hH LOG x s sock buf backlog ev gI gC cI cC hok hfit).mono
    fun _ _ ⟨_, _, _, e, _⟩ => e ▸ rfl)

end Bridge
end Rough
