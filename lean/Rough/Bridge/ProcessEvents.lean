import Rough.Bridge.ProcessEventsLemmas
/-
  Bridge theorems for the event loop of src/server.rs: `Server::process_events`, `Server::handle_health_check` and
  `Server::send_client_stats` generated from the Rust source, against the model `EventLoop.processEvents` (about which
  the LOOP_* theorems of C08, C09, C15, C17, C18, C19 are proved).

  Environment (Rough/Gen/ServerExt.lean, Rough/Gen/StatsExt.lean): `poll()` reports the tokens `poll.ready`; the
  health-check listener's accept queue and what happens to accepted connections is the ghost field `tcp`; the
  `Box<dyn ServerStats>` is the list of events recorded since its last `clear()` together with the kind of recorder
  (`recorder_kind`); the statistics queue is unbounded; the timer's re-arm delay has no jitter; no datagram arrives
  while the call runs (the model's `PassIn.arrivals` are empty); every send / write / shutdown succeeds.
-/
namespace Rough
namespace Bridge
open Rough.Stats Rough.EventLoop
open Rough.Lemmas.Loop (recordAll_append arm callTail callTail_nil callTail_cons)

/-- mio tokens of server.rs: EVT_MESSAGE = 0, EVT_STATUS_UPDATE = 1, EVT_HEALTH_CHECK = 2 -/
def tokenOf : Nat → Option Token
  | 0 => some .message
  | 1 => some .statusUpdate
  | 2 => some .healthCheck
  | _ => none

/-- a fresh recorder of the configured kind -/
def initRecorder : Option Nat → Recorder
  | none => .aggregated Aggregated.init
  | some limit => .perClient (PerClient.init limit)

/-- the model loop state a generated server state stands for (`ev` = the events recorded since the recorder was last
    cleared; nothing published yet; the readiness edges are whatever `poll` is about to report) -/
def loopOf (x : GenRest) (s : Server) (sock : Gen.Sock) (backlog : Bool) (ev : List Event) : Loop :=
  { srv := s, backlog := backlog, sockQ := toDatagrams sock.inq, sockEdge := false,
    hcListener := x.health_listener.isSome, hcQ := x.tcp.pending.map (·.addr), hcEdge := false, timerDue := false,
    recd := (initRecorder x.recorder_kind).recordAll ev, published := [] }

/-- what happens to an accepted connection when every write and shutdown succeeds -/
def answeredLog (a : Addr) : List Gen.TcpEvent :=
  [.accepted a, .wrote a (Rs.strBytes Gen.HTTP_RESPONSE), .shutdown a]

/-- observables of the generated server after a call -/
def obsLoopGen (g : Gen.Server) :=
  (g.socket_backlog, g.socket.out, toDatagrams g.socket.inq, g.tcp.pending.map (·.addr), g.tcp.log, g.stats_queue,
    (initRecorder g.recorder_kind).recordAll g.stats_recorder,
    g.responder_ietf.requests, g.responder_classic.requests, g.responder_ietf.merkle, g.responder_classic.merkle,
    g.responder_ietf.online_key, g.responder_classic.online_key, g.health_listener, g.recorder_kind)

/-- the same observables computed from the model's state and output after the call -/
def obsLoopModel (x : GenRest) (sock : Gen.Sock) (y : Loop × Out) :=
  (y.1.backlog, sock.out ++ y.2.sent.map some, y.1.sockQ, y.1.hcQ, x.tcp.log ++ y.2.hcAnswered.flatMap answeredLog,
    x.stats_queue ++ y.1.published.map (fun snap => snap.map fun p => Gen.clientOf p.1 p.2),
    y.1.recd,
    y.1.srv.ietf.requests, y.1.srv.classic.requests,
    toGenTree y.1.srv.ietf.ver y.1.srv.ietf.tree, toGenTree y.1.srv.classic.ver y.1.srv.classic.tree,
    (⟨y.1.srv.ietf.onl, Version.supportedWire⟩ : Gen.OnlineKey), (⟨y.1.srv.classic.onl, Version.supportedWire⟩ : Gen.OnlineKey),
    x.health_listener, x.recorder_kind)

namespace PEAux

/-- the published form of a snapshot -/
abbrev snapF (snap : List (Addr × Counters)) : List Gen.ClientStats := snap.map fun p => Gen.clientOf p.1 p.2

/-- `send_client_stats` reads the recorder as the model does -/
theorem su_rel (kind : Option Nat) (ev : List Event) :
    clientsOf kind ev = snapF ((initRecorder kind).recordAll ev).snapshot ∧
    (((initRecorder kind).recordAll ev).snapshot.isEmpty = false →
      ((initRecorder kind).recordAll ev).clear = initRecorder kind) := by
  cases kind with
  | none =>
    simp only [initRecorder, recordAll_aggregated, Recorder.snapshot]
    exact ⟨rfl, fun h => by cases h⟩
  | some limit =>
    simp only [initRecorder, recordAll_perClient, Recorder.snapshot, Recorder.clear]
    refine ⟨?_, fun _ => ?_⟩
    · simp only [clientsOf, Gen.statsIter, List.map_map, snapF]
      rfl
    · simp only [PerClient.clear, Lemmas.Stats.run_limit]
      rfl

theorem su_cases (kind : Option Nat) (ev : List Event) (st : Loop)
    (hrecd : st.recd = (initRecorder kind).recordAll ev) :
    (¬ (clientsOf kind ev).length > 0 ∧ sendClientStats st = st) ∨
    ((clientsOf kind ev).length > 0 ∧ clientsOf kind ev = snapF st.recd.snapshot ∧
      sendClientStats st = { st with published := st.published ++ [st.recd.snapshot], recd := initRecorder kind }) := by
  have hr := su_rel kind ev
  rw [← hrecd] at hr
  have hlen : (clientsOf kind ev).length = st.recd.snapshot.length := by rw [hr.1, snapF, List.length_map]
  rw [hlen]
  by_cases h : st.recd.snapshot = []
  · exact .inl ⟨by rw [h]; exact Nat.lt_irrefl 0, by simp [sendClientStats, h]⟩
  · have hne : st.recd.snapshot.isEmpty = false := by rwa [List.isEmpty_eq_false_iff]
    exact .inr ⟨List.length_pos_iff.mpr h, hr.1,
      by simp only [sendClientStats, hne, Bool.false_eq_true, if_false, hr.2 hne]⟩

/-- the model's observables over explicit starting values of the accumulated ones -/
def obsM (out0 : List (Option Sent)) (log0 : List Gen.TcpEvent) (q0 : List (List Gen.ClientStats))
    (hl : Option Unit) (kind : Option Nat) (y : Loop × Out) :=
  (y.1.backlog, out0 ++ y.2.sent.map some, y.1.sockQ, y.1.hcQ, log0 ++ y.2.hcAnswered.flatMap answeredLog,
    q0 ++ y.1.published.map (fun snap => snap.map fun p => Gen.clientOf p.1 p.2),
    y.1.recd,
    y.1.srv.ietf.requests, y.1.srv.classic.requests,
    toGenTree y.1.srv.ietf.ver y.1.srv.ietf.tree, toGenTree y.1.srv.classic.ver y.1.srv.classic.tree,
    (⟨y.1.srv.ietf.onl, Version.supportedWire⟩ : Gen.OnlineKey), (⟨y.1.srv.classic.onl, Version.supportedWire⟩ : Gen.OnlineKey),
    hl, kind)

theorem obsLoopModel_eq (x : GenRest) (sock : Gen.Sock) :
    obsLoopModel x sock = obsM sock.out x.tcp.log x.stats_queue x.health_listener x.recorder_kind := rfl

theorem obsM_append (out0 : List (Option Sent)) (log0 : List Gen.TcpEvent) (q0 : List (List Gen.ClientStats))
    (hl : Option Unit) (kind : Option Nat) (st : Loop) (o o' : Out) :
    obsM out0 log0 q0 hl kind (st, o.append o') =
      obsM (out0 ++ o.sent.map some) (log0 ++ o.hcAnswered.flatMap answeredLog) q0 hl kind (st, o') := by
  simp [obsM, Out.append, List.append_assoc, List.flatMap_append]

/-- the generated state `g` stands for the model loop state `st` (with `q0` the statistics queue before the call) -/
structure Rel (q0 : List (List Gen.ClientStats)) (g : Gen.Server) (st : Loop) : Prop where
  backlog : st.backlog = g.socket_backlog
  sockQ : st.sockQ = toDatagrams g.socket.inq
  hcl : st.hcListener = g.health_listener.isSome
  hcQ : st.hcQ = g.tcp.pending.map (·.addr)
  recd : st.recd = (initRecorder g.recorder_kind).recordAll g.stats_recorder
  queue : g.stats_queue = q0 ++ st.published.map snapF
  srv : (st.srv.ietf.requests, st.srv.classic.requests,
      toGenTree st.srv.ietf.ver st.srv.ietf.tree, toGenTree st.srv.classic.ver st.srv.classic.tree,
      (⟨st.srv.ietf.onl, Version.supportedWire⟩ : Gen.OnlineKey), (⟨st.srv.classic.onl, Version.supportedWire⟩ : Gen.OnlineKey)) =
    (g.responder_ietf.requests, g.responder_classic.requests, g.responder_ietf.merkle, g.responder_classic.merkle,
      g.responder_ietf.online_key, g.responder_classic.online_key)
  conn : ∀ c ∈ g.tcp.pending, c.writeOk = true ∧ c.shutOk = true

/-- before the socket is serviced, the generated state is the image of the model server state and the per-batch inputs
    are the ones its environment determines -/
def Form (E : Env) (LOG : Nat) (ins : Nat → PassIn) (g : Gen.Server) (st : Loop) : Prop :=
  ∃ x s sock buf bl ev gI gC cI cC, g = toGenServer x s sock buf bl ev ⟨gI, cI⟩ ⟨gC, cC⟩ ∧ st.srv = s ∧
    (∀ a k, sock.ok a k = true) ∧ (∀ p ∈ sock.inq, p.1.length ≤ buf.length) ∧
    ins = fun i => passEnv E (decide (LOG ≥ 4)) i s sock gI gC

theorem rel_final (q0 : List (List Gen.ClientStats)) (g : Gen.Server) (st : Loop) (h : Rel q0 g st) :
    obsLoopGen g = obsM g.socket.out g.tcp.log q0 g.health_listener g.recorder_kind (st, {}) := by
  have hs := h.srv
  simp only [Prod.mk.injEq] at hs
  simp only [obsLoopGen, obsM, List.map_nil, List.append_nil, List.flatMap_nil, h.backlog, h.sockQ, h.hcQ, h.recd,
    h.queue, hs.1, hs.2.1, hs.2.2.1, hs.2.2.2.1, hs.2.2.2.2.1, hs.2.2.2.2.2]

theorem form_update (E : Env) (LOG : Nat) (ins : Nat → PassIn) (g : Gen.Server) (st st' : Loop)
    (h : Form E LOG ins g st) (hs : st'.srv = st.srv) (t : Gen.Tcp) (e : List Event) (q : List (List Gen.ClientStats))
    (tm : List Rs.Time) :
    Form E LOG ins { g with tcp := t, stats_recorder := e, stats_queue := q, stats_pub_timer := tm } st' := by
  obtain ⟨x, s, sock, buf, bl, ev, gI, gC, cI, cC, hg, hsrv, hok, hfit, hins⟩ := h
  subst hg
  exact ⟨{ x with tcp := t, stats_queue := q, stats_pub_timer := tm }, s, sock, buf, bl, e, gI, gC, cI, cC, rfl,
    hs.trans hsrv, hok, hfit, hins⟩

theorem svc_step (E : Env) (hH : ∀ z, (E.H z).length = 64) (LOG : Nat) (ins : Nat → PassIn)
    (q0 : List (List Gen.ClientStats)) (g : Gen.Server) (st : Loop) (hrel : Rel q0 g st) (hform : Form E LOG ins g st) :
    Res.Rel (fun g' z => Rel q0 g' z.1 ∧ g'.socket.out = g.socket.out ++ z.2.sent.map some ∧ g'.tcp.log = g.tcp.log ∧
        z.2.hcAnswered = [] ∧ g'.health_listener = g.health_listener ∧ g'.recorder_kind = g.recorder_kind)
      (Gen.Server.service_socket E.S E.H LOG g) (serviceSocket E (decide (LOG ≥ 4)) 16 st ins) := by
  obtain ⟨x, s, sock, buf, bl, ev, gI, gC, cI, cC, rfl, hsrv, hok, hfit, rfl⟩ := hform
  refine ((service_socket_full E hH LOG x s sock buf bl ev gI gC cI cC hok hfit).comp
    (svc_model E (decide (LOG ≥ 4)) 16 s sock gI gC st hsrv hrel.sockQ).flip).mono ?_
  rintro g' ⟨st', o⟩ ⟨y, ⟨buf', cI', cC', rfl, _⟩, rfl, hsent, _, hhc⟩
  refine ⟨{ hrel with backlog := rfl, sockQ := rfl, srv := rfl, recd := ?_ }, by rw [hsent]; rfl, rfl, hhc, rfl, rfl⟩
  show st.recd.recordAll _ = (initRecorder x.recorder_kind).recordAll (ev ++ _)
  rw [recordAll_append, hrel.recd]
  rfl

theorem hc_step (q0 : List (List Gen.ClientStats)) (g : Gen.Server) (st : Loop) (hrel : Rel q0 g st)
    (hl : g.health_listener.isSome) :
    handleHealthCheck st = .ok ({ st with hcQ := [], recd := st.recd.recordAll (g.tcp.pending.map hcEvent) },
        { events := g.tcp.pending.map hcEvent, hcAnswered := st.hcQ }) ∧
      Rel q0 { g with tcp := hcDrain g.tcp.pending g.tcp, stats_recorder := g.stats_recorder ++ g.tcp.pending.map hcEvent }
        { st with hcQ := [], recd := st.recd.recordAll (g.tcp.pending.map hcEvent) } ∧
      (hcDrain g.tcp.pending g.tcp).log = g.tcp.log ++ st.hcQ.flatMap answeredLog := by
  have hev : (st.hcQ.map fun a => (⟨Kind.healthCheck, a, 0⟩ : Event)) = g.tcp.pending.map hcEvent := by
    rw [hrel.hcQ, List.map_map]
    rfl
  have hp := hcDrain_pending g.tcp.pending g.tcp rfl
  refine ⟨?_, ?_, ?_⟩
  · rw [← hev]
    exact Lemmas.Loop.handleHealthCheck_eq_ok.mpr ⟨hrel.hcl.trans hl, rfl⟩
  · exact { hrel with
      hcQ := by
        show [] = List.map _ (hcDrain g.tcp.pending g.tcp).pending
        rw [hp]
        rfl
      recd := by
        show st.recd.recordAll _ = (initRecorder g.recorder_kind).recordAll (g.stats_recorder ++ _)
        rw [recordAll_append, hrel.recd]
      conn := by
        show ∀ c ∈ (hcDrain g.tcp.pending g.tcp).pending, _
        rw [hp]
        exact fun c hc => nomatch hc }
  · rw [hcDrain_log_ok _ _ hrel.conn, hrel.hcQ]
    rfl

theorem su_step (q0 : List (List Gen.ClientStats)) (g : Gen.Server) (st : Loop) (hrel : Rel q0 g st) :
    Rel q0 { g with
        stats_queue := if (clientsOf g.recorder_kind g.stats_recorder).length > 0
          then g.stats_queue ++ [clientsOf g.recorder_kind g.stats_recorder] else g.stats_queue,
        stats_recorder := if (clientsOf g.recorder_kind g.stats_recorder).length > 0 then [] else g.stats_recorder,
        stats_pub_timer := g.stats_pub_timer ++ [g.stats_pub_freq] }
      (sendClientStats st) := by
  rcases su_cases g.recorder_kind g.stats_recorder st hrel.recd with ⟨h1, h2⟩ | ⟨h1, h2, h3⟩
  · rw [h2]
    simp only [h1, if_false]
    exact { hrel with }
  · rw [h3]
    simp only [h1, if_true]
    exact { hrel with
      recd := rfl
      queue := by
        show g.stats_queue ++ [_] = q0 ++ List.map snapF (st.published ++ [st.recd.snapshot])
        rw [hrel.queue, h2, List.map_append, List.append_assoc]
        rfl }

theorem sendClientStats_srv (st : Loop) : (sendClientStats st).srv = st.srv := by
  obtain ⟨p, r, e⟩ := Lemmas.Loop.sendClientStats_eq st
  rw [e]

def tokNum : Token → Nat
  | .message => 0
  | .statusUpdate => 1
  | .healthCheck => 2

theorem tokenOf_some {n : Nat} {t : Token} (h : tokenOf n = some t) : n = tokNum t := by
  match n, h with
  | 0, h => cases h; rfl
  | 1, h => cases h; rfl
  | 2, h => cases h; rfl
  | _ + 3, h => cases h

theorem mapM_tokenOf : ∀ {ts : List Nat} {toks : List Token}, ts.mapM tokenOf = some toks → ts = toks.map tokNum
  | [], toks, h => by
    cases h
    rfl
  | n :: ts, toks, h => by
    simp only [List.mapM_cons, Option.bind_eq_bind, Option.bind_eq_some_iff, Option.pure_def, Option.some.injEq] at h
    obtain ⟨t, h1, rest, h2, rfl⟩ := h
    rw [List.map_cons, ← tokenOf_some h1, ← mapM_tokenOf h2]

theorem nodup_of_map_tokNum {toks : List Token} (h : (toks.map tokNum).Nodup) : toks.Nodup :=
  h.of_map tokNum fun _ _ hne e => hne (congrArg tokNum e)

/-- the event loop and what follows it, for any loop body / epilogue that do what the generated ones do.
    `sv` is the generated `socket_serviced`: set by the EVT_MESSAGE arm, read only by the epilogue.  Induction over the
    reported tokens with `Rel` as invariant; `Form` (the generated state is still the image of a model server, so that
    `service_socket_full` applies) is needed, and kept by the two other arms, only while the socket has not been
    serviced: with distinct tokens it is serviced at most once, by the message arm or else by the epilogue. -/
theorem main_sim (E : Env) (hH : ∀ z, (E.H z).length = 64) (LOG : Nat) (evs : List Nat) (ins : Nat → PassIn)
    (q0 : List (List Gen.ClientStats))
    (body : Nat → Gen.Server × Bool → Res (Rs.Step (Gen.Server × Bool)))
    (K : Gen.Server × Bool → Res (Gen.Server × List Nat))
    (hb0 : ∀ g sv, body 0 (g, sv) = (Gen.Server.service_socket E.S E.H LOG g).bind fun g' => .ok (.next (g', true)))
    (hb1 : ∀ g sv, body 1 (g, sv) = (Gen.Server.send_client_stats E.S E.H LOG g).bind fun g' => .ok (.next (g', sv)))
    (hb2 : ∀ g sv, body 2 (g, sv) = (Gen.Server.handle_health_check E.S E.H LOG g).bind fun g' => .ok (.next (g', sv)))
    (hK : ∀ g sv, K (g, sv) = if g.socket_backlog = true ∧ sv = false
      then (Gen.Server.service_socket E.S E.H LOG g).bind fun g' => .ok (g', evs) else .ok (g, evs)) :
    ∀ (toks : List Token), toks.Nodup →
    ∀ (g : Gen.Server) (st : Loop) (sv : Bool), Rel q0 g st → (sv = false → Form E LOG ins g st) →
      (sv = true → Token.message ∉ toks) →
      Res.Rel (fun r y => obsLoopGen r.1 = obsM g.socket.out g.tcp.log q0 g.health_listener g.recorder_kind y)
        ((Rs.forList (toks.map tokNum) (g, sv) body).bind K) (callTail E (decide (LOG ≥ 4)) ins toks st sv) := by
  intro toks
  induction toks with
  | nil =>
    intro _ g st sv hrel hform _
    rw [List.map_nil, Rs.forList_nil, Res.bind_ok, hK, callTail_nil, hrel.backlog]
    simp only [Bool.and_eq_true, Bool.not_eq_true']
    by_cases hgo : g.socket_backlog = true ∧ sv = false
    · rw [if_pos hgo, if_pos hgo, ← Res.map_eq_bind]
      refine Res.Rel.map_left_iff.mpr ((svc_step E hH LOG ins q0 g st hrel (hform hgo.2)).mono
        fun g' z ⟨hrel', hout, hlog, hhc, hhl, hkind⟩ => ?_)
      rw [rel_final q0 g' z.1 hrel', hout, hlog, hhl, hkind]
      simp [obsM, hhc]
    · rw [if_neg hgo, if_neg hgo]
      exact .ok (rel_final q0 g st hrel)
  | cons t toks ih =>
    intro hnd g st sv hrel hform hsv
    have hnd' := (List.nodup_cons.mp hnd)
    rw [List.map_cons, callTail_cons, Rs.forList_cons_bind]
    cases t with
    | message =>
      have hsvf : sv = false := by
        cases sv with
        | false => rfl
        | true => exact absurd (List.mem_cons_self ..) (hsv rfl)
      simp only [tokNum, hb0, Res.bind_assoc, Res.bind_ok, arm, MAX_BATCHES_PER_CALL]
      refine (svc_step E hH LOG ins q0 g st hrel (hform hsvf)).bind
        fun g' z ⟨hrel', hout, hlog, hhc, hhl, hkind⟩ => ?_
      refine (ih hnd'.2 g' z.1 true hrel' (fun h => nomatch h) (fun _ => hnd'.1)).bind_right
        fun r w h => Res.Rel.ok ?_
      simpa only [obsM_append, hout, hlog, hhl, hkind, hhc, List.flatMap_nil, List.append_nil] using h
    | statusUpdate =>
      simp only [tokNum, hb1, send_client_stats_exact, Res.bind_ok, arm]
      refine (ih hnd'.2 _ _ sv (su_step q0 g st hrel)
        (fun h => form_update E LOG ins g st _ (hform h) (sendClientStats_srv st) g.tcp _ _ _)
        (fun h => fun hm => hsv h (List.mem_cons_of_mem _ hm))).bind_right fun r w h => Res.Rel.ok ?_
      simpa only [Lemmas.Loop.Out.empty_append] using h
    | healthCheck =>
      cases hl : g.health_listener.isSome with
      | true =>
        obtain ⟨hm, hrel', hlog⟩ := hc_step q0 g st hrel hl
        simp only [tokNum, hb2, handle_health_check_exact _ _ _ _ hl, Res.bind_ok, arm, hm]
        refine (ih hnd'.2 _ _ sv hrel'
          (fun h => form_update E LOG ins g st _ (hform h) rfl _ _ g.stats_queue g.stats_pub_timer)
          (fun h => fun hm => hsv h (List.mem_cons_of_mem _ hm))).bind_right fun r w h => Res.Rel.ok ?_
        simpa only [obsM_append, hlog, List.map_nil, List.append_nil] using h
      | false =>
        -- both sides panic at the `unwrap`
        obtain ⟨p, hp⟩ := handle_health_check_none E.S E.H LOG g (by simpa using hl)
        simp only [tokNum, hb2, hp, Res.bind_panic, arm, handleHealthCheck, hrel.hcl, hl, Bool.not_false, if_true]
        exact .panic _ _

end PEAux
open PEAux

/-- `handle_health_check` for ANY behaviour of the accepted sockets: it returns normally, accepts every pending
    connection in order (the accept queue is empty afterwards), records one health-check event per connection and
    touches nothing else observable (without a listener: `handle_health_check_no_listener`) -/
theorem handle_health_check_total (E : Env) (LOG : Nat) (x : GenRest) (s : Server) (sock : Gen.Sock) (buf : Bytes)
    (backlog : Bool) (ev : List Event) (gI gC : Gen.GreaseQ) (hl : x.health_listener.isSome) :
    ∃ g', Gen.Server.handle_health_check E.S E.H LOG (toGenServer x s sock buf backlog ev gI gC) = .ok g' ∧
      g'.tcp.pending = [] ∧
      g'.stats_recorder = ev ++ x.tcp.pending.map (fun c => (⟨Kind.healthCheck, c.addr, 0⟩ : Event)) ∧
      (g'.tcp.log.filterMap fun e => match e with | .accepted a => some a | _ => none) =
        (x.tcp.log.filterMap fun e => match e with | .accepted a => some a | _ => none) ++ x.tcp.pending.map (·.addr) ∧
      g' = { toGenServer x s sock buf backlog ev gI gC with tcp := g'.tcp, stats_recorder := g'.stats_recorder } := by
  refine ⟨_, handle_health_check_exact E.S E.H LOG (toGenServer x s sock buf backlog ev gI gC) hl, ?_, ?_, ?_, rfl⟩
  · exact hcDrain_pending _ _ rfl
  · rfl
  · exact hcDrain_accepted _ (fun _ => rfl) (fun _ _ => rfl) (fun _ => rfl) (fun _ => rfl) (fun _ => rfl) _ _

theorem handle_health_check_no_listener (E : Env) (LOG : Nat) (x : GenRest) (s : Server) (sock : Gen.Sock) (buf : Bytes)
    (backlog : Bool) (ev : List Event) (gI gC : Gen.GreaseQ) (hl : x.health_listener = none) :
    (Gen.Server.handle_health_check E.S E.H LOG (toGenServer x s sock buf backlog ev gI gC)).isPanic = true := by
  obtain ⟨p, hp⟩ := handle_health_check_none E.S E.H LOG (toGenServer x s sock buf backlog ev gI gC) hl
  rw [hp]
  rfl

/-- `send_client_stats` = the model's `sendClientStats`: the recorder's entries (if any) are appended to the queue and
    the recorder is cleared; the timer is re-armed with the publication period -/
theorem send_client_stats_eq (E : Env) (LOG : Nat) (x : GenRest) (s : Server) (sock : Gen.Sock) (buf : Bytes)
    (backlog : Bool) (ev : List Event) (gI gC : Gen.GreaseQ) :
    ∃ g', Gen.Server.send_client_stats E.S E.H LOG (toGenServer x s sock buf backlog ev gI gC) = .ok g' ∧
      (let st' := sendClientStats (loopOf x s sock backlog ev)
       g'.stats_queue = x.stats_queue ++ st'.published.map (fun snap => snap.map fun p => Gen.clientOf p.1 p.2) ∧
       (initRecorder x.recorder_kind).recordAll g'.stats_recorder = st'.recd) ∧
      g'.stats_pub_timer = x.stats_pub_timer ++ [x.stats_pub_freq] ∧
      g' = { toGenServer x s sock buf backlog ev gI gC with
               stats_queue := g'.stats_queue, stats_recorder := g'.stats_recorder, stats_pub_timer := g'.stats_pub_timer } := by
  refine ⟨_, send_client_stats_exact E.S E.H LOG (toGenServer x s sock buf backlog ev gI gC), ?_, rfl, rfl⟩
  dsimp only [toGenServer]
  rcases su_cases x.recorder_kind ev (loopOf x s sock backlog ev) rfl with ⟨h1, h2⟩ | ⟨h1, h2, h3⟩
  · rw [h2]
    simp [h1, loopOf]
  · rw [h3]
    simp only [h1, if_true]
    simp [h2, loopOf, Recorder.recordAll]

/-- `process_events` refines the model for the per-batch inputs `passEnv`, every one of which is taken from the
    environment (`passEnv_prov`) -/
theorem process_events_sim_passEnv (E : Env) (hH : ∀ z, (E.H z).length = 64) (LOG : Nat) (x : GenRest) (s : Server)
    (sock : Gen.Sock) (buf : Bytes) (backlog : Bool) (ev : List Event) (gI gC : List Grease) (cI cC : Grease)
    (evs0 : List Nat) (toks : List Token)
    (hok : ∀ a k, sock.ok a k = true) (hfit : ∀ p ∈ sock.inq, p.1.length ≤ buf.length)
    (hpoll : x.poll.fails = false) (htoks : x.poll.ready.mapM tokenOf = some toks) (hnodup : x.poll.ready.Nodup)
    (hconn : ∀ c ∈ x.tcp.pending, c.writeOk = true ∧ c.shutOk = true) :
    (Gen.Server.process_events E.S E.H LOG (toGenServer x s sock buf backlog ev ⟨gI, cI⟩ ⟨gC, cC⟩) evs0).map
          (fun r => obsLoopGen r.1)
        ≃ᵣ (processEvents E (decide (LOG ≥ 4)) (loopOf x s sock backlog ev)
              ⟨toks, fun i => passEnv E (decide (LOG ≥ 4)) i s sock gI gC⟩).map (obsLoopModel x sock) := by
  -- `poll` finds all edges of `loopOf ..` cleared already
  have hmodel : processEvents E (decide (LOG ≥ 4)) (loopOf x s sock backlog ev)
      ⟨toks, fun i => passEnv E (decide (LOG ≥ 4)) i s sock gI gC⟩ =
      callTail E (decide (LOG ≥ 4)) (fun i => passEnv E (decide (LOG ≥ 4)) i s sock gI gC) toks
        (loopOf x s sock backlog ev) false := by
    simp only [processEvents, callTail, loopOf, Bool.false_and]
  rw [hmodel, obsLoopModel_eq]
  unfold Gen.Server.process_events
  have hp : Rs.unwrapR (Gen.Poll.poll (toGenServer x s sock buf backlog ev ⟨gI, cI⟩ ⟨gC, cC⟩).poll)
      "server.rs:process_events:expect#1" = .ok x.poll.ready.length := by
    show Rs.unwrapR (Gen.Poll.poll x.poll) _ = _
    simp only [Gen.Poll.poll, hpoll, Bool.false_eq_true, if_false, Rs.unwrapR_ok]
  have hr : (toGenServer x s sock buf backlog ev ⟨gI, cI⟩ ⟨gC, cC⟩).poll.ready = x.poll.ready := rfl
  simp only [Res.pure_eq, Res.bind_eq, hp, hr, Res.bind_ok]
  have hif : ∀ (c : Prop) [Decidable c] (a b : Option Rs.Time) (f : Option Rs.Time → Res (Gen.Server × List Nat)),
      (if c then Res.ok a else Res.ok b).bind f = f (if c then a else b) := by
    intro c _ a b f
    split <;> rfl
  rw [hif]
  have hready := mapM_tokenOf htoks
  rw [hready] at hnodup ⊢
  -- `main_sim` from the state before the call: `Rel` and `Form` hold of `toGenServer ..` against `loopOf ..` by
  -- unfolding, nothing has been serviced yet (`sv = false`); its four hypotheses are the generated body and epilogue
  refine Res.Rel.map_sim_iff.mpr (main_sim E hH LOG (toks.map tokNum) _ x.stats_queue _ _ ?hb0 ?hb1 ?hb2 ?hK toks (nodup_of_map_tokNum hnodup) _ _ false
    { backlog := rfl, sockQ := rfl, hcl := rfl, hcQ := rfl, recd := rfl
      queue := by simp [loopOf, toGenServer]
      srv := rfl, conn := hconn }
    (fun _ => ⟨x, s, sock, buf, backlog, ev, gI, gC, cI, cC, rfl, rfl, hok, hfit, rfl⟩) (fun h => nomatch h))
  case hb0 => intro g sv; rfl
  case hb1 => intro g sv; rfl
  case hb2 => intro g sv; rfl
  case hK => intro g sv; cases sv <;> simp

/-- `process_events` refines the model: for the tokens `poll` reports (each at most once, all of them known), with
    every send / write / shutdown succeeding and no datagram arriving during the call, the generated code behaves as
    `EventLoop.processEvents` does for SOME per-batch inputs without in-call arrivals (the clock readings and
    fault-injection decisions the environment supplies) — same backlog flag, same datagrams on the wire in the same
    order, same remaining receive queue, same connections answered in the same order, same published snapshots, same
    recorder state, same responder states. The model state is `loopOf ..`, whose readiness edges are cleared: of the
    LOOP_* theorems those without an `EventsOK` hypothesis (safety, the recorder, and the bound, which needs `Nodup`
    only) carry over to what the code does (Props/GenLoop.lean). -/
theorem process_events_sim (E : Env) (hH : ∀ z, (E.H z).length = 64) (LOG : Nat) (x : GenRest) (s : Server)
    (sock : Gen.Sock) (buf : Bytes) (backlog : Bool) (ev : List Event) (gI gC : List Grease) (cI cC : Grease)
    (evs0 : List Nat) (toks : List Token)
    (hok : ∀ a k, sock.ok a k = true) (hfit : ∀ p ∈ sock.inq, p.1.length ≤ buf.length)
    (hpoll : x.poll.fails = false) (htoks : x.poll.ready.mapM tokenOf = some toks) (hnodup : x.poll.ready.Nodup)
    (hconn : ∀ c ∈ x.tcp.pending, c.writeOk = true ∧ c.shutOk = true) :
    ∃ passes : Nat → PassIn, (∀ i, (passes i).arrivals = []) ∧
      (Gen.Server.process_events E.S E.H LOG (toGenServer x s sock buf backlog ev ⟨gI, cI⟩ ⟨gC, cC⟩) evs0).map
          (fun r => obsLoopGen r.1)
        ≃ᵣ (processEvents E (decide (LOG ≥ 4)) (loopOf x s sock backlog ev) ⟨toks, passes⟩).map (obsLoopModel x sock) :=
  ⟨fun i => passEnv E (decide (LOG ≥ 4)) i s sock gI gC, fun i => (passEnv_prov _ _ i _ _ _ _).1,
    process_events_sim_passEnv E hH LOG x s sock buf backlog ev gI gC cI cC evs0 toks hok hfit hpoll htoks hnodup hconn⟩

end Bridge
end Rough
