import Rough.Bridge.Basic
import Rough.Generated.Src.Config
import Rough.Model.Config
/-
  Bridge theorems for `is_valid_config` (src/config/mod.rs): the validator generated from the Rust source accepts
  exactly the configurations the model's `Config.isValid` accepts (about which C16's "out-of-range ⇒ refused" and C15's
  "valid ⇒ Server::new preconditions" are proved) — for every configuration record and every file system.
  A refusal is `Ok(false)` or a panic (`dir.metadata().unwrap()` on a path that does not exist): both refuse start-up.

  Proof shape: the do-block is a chain of join points, each taking the `is_valid` flag. Every range / presence check is
  `if p { is_valid = false }` in front of the next join point (`ite_flag`: it only clears the flag), so the chain is
  walked without a case split; the tail (persistence directory, socket address) is analysed once, for an arbitrary flag.
-/
namespace Rough
namespace Bridge
section
open Rough.Config

/-- the model's single file-system fact, from the three the Rust code consults -/
def fsOf (fs : Gen.Fs) : Config.FsFacts := ⟨fun d => fs.isDir d && fs.pathExists d && !fs.readonly d⟩

/-- `dir.metadata().unwrap()` on a persistence directory that does not exist -/
def cfgPanics (fs : Gen.Fs) (c : Cfg) : Bool :=
  c.clientStats && (match c.persistDir with | some d => !fs.pathExists d | none => false)

local macro "cfg_step" h:ident : tactic =>
  `(tactic| simp only [$h:ident, ↓reduceIte, ite_self, ne_eq, not_true_eq_false, not_false_eq_true, decide_true, decide_false,
      Bool.true_and, Bool.false_and, Bool.and_true, Bool.and_false, Bool.not_true, Bool.not_false,
      Bool.false_eq_true, true_and, false_and, and_true, and_false, reduceCtorEq])

theorem ite_flag {β} (K : Bool → β) {p q : Prop} [Decidable p] [Decidable q] (h : ¬ p ↔ q) (b : Bool) :
    (if p then K false else K b) = K (b && decide q) := by
  by_cases hp : p
  · rw [if_pos hp, decide_eq_false (fun hq => h.mpr hq hp), Bool.and_false]
  · rw [if_neg hp, decide_eq_true (h.mp hp), Bool.and_true]

theorem is_valid_config_sim (fs : Gen.Fs) (c : Cfg) :
    Gen.is_valid_config fs c ≃ᵣ if cfgPanics fs c then .panic "" else .ok (isValid (fsOf fs) c) := by
  unfold Gen.is_valid_config
  -- `t`, `f`: the flag values `true`, `false`; `j0` … `j7`: the rest of the function from the check of the interface
  -- (`j0`), seed, batch size, fault percentage, worker count, statistics directory (`j5`), address (`j6`) on, and the
  -- final `return is_valid` (`j7`), each as a function of the flag so far; `e` is the unused `Err(e)` binding
  extract_lets t j7 e f j6 j5 j4 j3 j2 j1 j0
  have h6 : ∀ b, j6 () b = .ok (b && isIpv4 c.interface) := by
    intro b
    cases b <;> cases h : isIpv4 c.interface <;> simp [j6, j7, f, h]
  have h5 : ∀ b, j5 () b ≃ᵣ if cfgPanics fs c then .panic "" else
      .ok (b && ((if c.clientStats then (match c.persistDir with | some d => (fsOf fs).isWritableDir d | none => false)
        else true) && isIpv4 c.interface)) := by
    intro b
    cases hcs : c.clientStats <;> cases hpd : c.persistDir <;>
      simp [j5, h6, cfgPanics, fsOf, f, hcs, hpd]
    rename_i d
    cases hp : fs.pathExists d <;> cases hd : fs.isDir d <;> cases hr : fs.readonly d <;> simp [hr]
  have h4 : ∀ b, j4 () b = j5 () (b && decide (c.numWorkers ≠ 0)) := ite_flag _ Iff.rfl
  have h3 : ∀ b, j3 () b = j4 () (b && decide (c.faultPct ≤ 50)) := ite_flag _ Nat.not_lt
  have h2 : ∀ b, j2 () b = j3 () (b && decide (1 ≤ c.batchSize ∧ c.batchSize ≤ 64)) := ite_flag _ (by omega)
  have h1 : ∀ b, j1 () b = j2 () (b && decide (c.seed ≠ [] ∧
      if c.kmsPlain then c.seed.length = 32 else c.seed.length > 32)) := by
    intro b
    simp only [j1]
    rw [ite_flag (j2 ()) (q := c.kmsPlain ≠ true → c.seed.length > Gen.SEED_LENGTH) (by simp),
      ite_flag (j2 ()) (q := c.kmsPlain = true → c.seed.length = Gen.SEED_LENGTH) (by simp),
      ite_flag (j2 ()) (q := c.seed ≠ []) (by simp)]
    refine congrArg (j2 ()) ?_
    cases hk : c.kmsPlain <;> simp [Gen.SEED_LENGTH, Bool.and_comm, Bool.and_left_comm]
  have h0 : ∀ b, j0 () b = j1 () (b && decide (c.interface ≠ "")) := ite_flag _ (by simp)
  rw [ite_flag (j0 ()) (q := c.port ≠ 0) Iff.rfl, h0, h1, h2, h3, h4]
  refine Res.Sim.trans (h5 _) (Res.Sim.of_eq ?_)
  congr 2
  simp only [isValid, t, Bool.true_and, Bool.decide_and, Bool.decide_eq_true, Bool.and_assoc]
  rfl

/-- a persistence directory that does not exist is not a writable one: the model refuses where the code panics -/
theorem isValid_of_cfgPanics (fs : Gen.Fs) (c : Cfg) (h : cfgPanics fs c = true) : isValid (fsOf fs) c = false := by
  simp only [cfgPanics, Bool.and_eq_true] at h
  cases hpd : c.persistDir with
  | none => rw [hpd] at h; cases h.2
  | some d =>
    rw [hpd] at h
    simp only [Bool.not_eq_true'] at h
    simp [isValid, h.1, hpd, fsOf, h.2]

end

theorem is_valid_config_true_iff (fs : Gen.Fs) (c : Config.Cfg) :
    Gen.is_valid_config fs c = .ok true ↔ Config.isValid (fsOf fs) c = true := by
  rw [Res.Sim.ok_iff (is_valid_config_sim fs c)]
  split
  · rename_i hp
    simp [isValid_of_cfgPanics fs c hp]
  · simp

theorem is_valid_config_not_err (fs : Gen.Fs) (c : Config.Cfg) : Gen.is_valid_config fs c ≠ .err := by
  rw [ne_eq, Res.Sim.err_iff (is_valid_config_sim fs c)]
  split <;> simp

end Bridge
end Rough
