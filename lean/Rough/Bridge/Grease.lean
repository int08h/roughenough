import Rough.Bridge.GreaseLemmas
import Rough.Generated.Src.Grease
/-
  Bridge theorems for src/grease.rs: the fault injector generated from the Rust source, run on a tape that encodes a
  fault-injection decision (`encDecision`), does what the model's `applyGrease` does with that decision (about which
  C02's "verifies or fails outright" and C08's `GreaseOK` safety are proved).  The other generated modules use the
  injector through the decision queue `Gen.GreaseQ`; `greaseq_is_grease` justifies that environment.
-/
namespace Rough
namespace Bridge

theorem tags_fn_eq (m : Gen.RtMessage) : Gen.RtMessage.tags_fn m = .ok m.tags := rfl
theorem values_fn_eq (m : Gen.RtMessage) : Gen.RtMessage.values_fn m = .ok m.values := rfl
theorem new_deliberately_invalid_eq (T : List Tag) (V : List Bytes) :
    Gen.RtMessage.new_deliberately_invalid T V = .ok ⟨T, V⟩ := rfl

theorem toGen_tags (m : Msg) : (toGen m).tags = m.fields.map Prod.fst := rfl
theorem toGen_values (m : Msg) : (toGen m).values = m.fields.map Prod.snd := rfl

theorem sample_coin (b : Bool) (t : Gen.Tape) : Gen.Tape.sample (.coin b :: t) = (b, t) := rfl
theorem choose_pick0 (t : Gen.Tape) :
    Gen.Tape.choose Gen.ALL_PATHOLOGIES (.pick 0 :: t) = (some Gen.Pathology.randomlyOrderTags, t) := rfl
theorem choose_pick1 (t : Gen.Tape) :
    Gen.Tape.choose Gen.ALL_PATHOLOGIES (.pick 1 :: t) = (some Gen.Pathology.corruptResponseSignature, t) := rfl
theorem indexSample_perm (p : List Nat) (t : Gen.Tape) (a b : Nat) :
    Gen.Tape.indexSample (.perm p :: t) a b = (p, t) := rfl

theorem fillBytes_rho (rho : Bytes) (h : rho.length = 64) (t : Gen.Tape) :
    Gen.Tape.fillBytes (.bytes rho :: t) (Rs.rep 0 Gen.SIGNATURE_LENGTH) = (rho, t) := by
  simp only [Gen.Tape.fillBytes, Rs.rep, Gen.SIGNATURE_LENGTH, List.length_replicate, h]
  rw [List.take_of_length_le (by omega), List.drop_of_length_le (by simp)]
  simp

/-- the step of the fold in `applyGrease (.reorder perm) r` -/
abbrev reorderStep (r : Msg) : Res (List (Tag × Bytes)) → Nat → Res (List (Tag × Bytes)) :=
  fun acc i => acc.bind fun l =>
    (Res.unwrap "grease.rs:randomly_order_tags:get(idx).unwrap" r.fields[i]?).bind fun f => .ok (l ++ [f])

theorem reorder_foldl_panic (r : Msg) (perm : List Nat) (s : String) :
    perm.foldl (reorderStep r) (.panic s) = .panic s := by
  induction perm with
  | nil => rfl
  | cons i is ih => simpa [List.foldl_cons, reorderStep] using ih

theorem reorder_loop (r : Msg) (body : Nat → List Tag × List Bytes → Res (Rs.Step (List Tag × List Bytes)))
    (hsome : ∀ idx f T V, r.fields[idx]? = some f → body idx (T, V) = .ok (.next (T ++ [f.1], V ++ [f.2])))
    (hnone : ∀ idx T V, r.fields[idx]? = none → ∃ s, body idx (T, V) = .panic s)
    (perm : List Nat) : ∀ (acc : List (Tag × Bytes)),
    Rs.forList perm (acc.map Prod.fst, acc.map Prod.snd) body ≃ᵣ
      (perm.foldl (reorderStep r) (.ok acc)).map fun l => (l.map Prod.fst, l.map Prod.snd) := by
  induction perm with
  | nil => intro acc; exact .refl _
  | cons i is ih =>
    intro acc
    rw [Rs.forList_cons, List.foldl_cons]
    cases h : r.fields[i]? with
    | none =>
      obtain ⟨s, hs⟩ := hnone i (acc.map Prod.fst) (acc.map Prod.snd) h
      rw [hs]
      simp only [reorderStep, Res.bind_ok, h, Res.unwrap, Res.bind_panic]
      rw [reorder_foldl_panic]
      exact .panic _ _
    | some f =>
      rw [hsome i f _ _ h]
      simp only [reorderStep, Res.bind_ok, h, Res.unwrap]
      have := ih (acc ++ [f])
      simpa using this

theorem randomly_order_tags_sim (en : Bool) (p : Nat) (perm : List Nat) (rest : Gen.Tape) (r : Msg) :
    Gen.Grease.randomly_order_tags ⟨en, p, .perm perm :: rest⟩ (toGen r) ≃ᵣ
      (applyGrease (.reorder perm) r).map (fun m => (toGen m, (⟨en, p, rest⟩ : Gen.Grease))) := by
  unfold Gen.Grease.randomly_order_tags
  simp only [Res.pure_eq, Res.bind_eq, tags_fn_eq, values_fn_eq, num_fields_eq, Res.bind_ok, indexSample_perm,
    Rs.withCapacity, new_deliberately_invalid_eq, applyGrease]
  rw [Res.map_bind]
  refine (reorder_loop r _ ?_ ?_ perm []).bind_map fun l _ => .refl _
  · intro idx f T V h
    simp [toGen_tags, toGen_values, List.getElem?_map, h]
  · intro idx T V h
    simp [toGen_tags, toGen_values, List.getElem?_map, h]

theorem corrupt_nosig_eq (s : Gen.Grease) (r : Msg) (hs : (r.get Tag.SIG).isNone = true) :
    Gen.Grease.corrupt_response_signature s (toGen r) = .ok (toGen r, s) := by
  unfold Gen.Grease.corrupt_response_signature
  simp only [Res.pure_eq, Res.bind_eq, get_field_eq, Res.bind_ok, hs, if_true]

theorem corrupt_sig_sim (en : Bool) (p : Nat) (rho : Bytes) (hrho : rho.length = 64) (rest : Gen.Tape) (r : Msg)
    (hs : (r.get Tag.SIG).isNone = false) :
    Gen.Grease.corrupt_response_signature ⟨en, p, .bytes rho :: rest⟩ (toGen r) ≃ᵣ
      (applyGrease (.corruptSig rho) r).map (fun m => (toGen m, (⟨en, p, rest⟩ : Gen.Grease))) := by
  unfold Gen.Grease.corrupt_response_signature
  simp only [Res.pure_eq, Res.bind_eq, get_field_eq, num_fields_eq, Res.bind_ok, fillBytes_rho rho hrho, hs,
    with_capacity_eq', applyGrease, Bool.false_eq_true, if_false]
  add_step
  refine (Rs.unwrapO_sim _ _ _).bind_mapR fun pv _ => ?_
  add_step
  refine (Rs.unwrapO_sim _ _ _).bind_mapR fun sv _ => ?_
  add_step
  refine (Rs.unwrapO_sim _ _ _).bind_mapR fun cv _ => ?_
  add_step
  refine (Rs.unwrapO_sim _ _ _).bind_mapR fun iv _ => ?_
  add_step
  rw [Lemmas.Keys.buildMsg_sorted _ _ (by tags_sorted)]
  exact .refl _

/-- the tape left behind by `add_errors` on `(encDecision g).tail ++ rest`: `rest`, EXCEPT that
    `corrupt_response_signature` returns a message without SIG before its `fill_bytes`, so that draw is not made -/
def tapeAfter (g : Grease) (r : Msg) (rest : Gen.Tape) : Gen.Tape :=
  match g with
  | .corruptSig rho => if (r.get Tag.SIG).isNone then .bytes rho :: rest else rest
  | _ => rest

theorem tapeAfter_of_sig (g : Grease) (r : Msg) (rest : Gen.Tape)
    (h : ∀ rho, g = Grease.corruptSig rho → (r.get Tag.SIG).isSome) : tapeAfter g r rest = rest := by
  cases g with
  | none => rfl
  | reorder perm => rfl
  | corruptSig rho =>
    have := h rho rfl
    cases hg : r.get Tag.SIG with
    | none => rw [hg] at this; cases this
    | some v => simp [tapeAfter, hg]

theorem add_errors_reorder (en : Bool) (p : Nat) (perm : List Nat) (rest : Gen.Tape) (m : Gen.RtMessage) :
    Gen.Grease.add_errors ⟨en, p, .pick 0 :: .perm perm :: rest⟩ m =
      (Gen.Grease.randomly_order_tags ⟨en, p, .perm perm :: rest⟩ m).bind fun t => .ok (t.1, t.2) := by
  unfold Gen.Grease.add_errors
  simp only [Res.pure_eq, Res.bind_eq, choose_pick0]

theorem add_errors_corrupt (en : Bool) (p : Nat) (rho : Bytes) (rest : Gen.Tape) (m : Gen.RtMessage) :
    Gen.Grease.add_errors ⟨en, p, .pick 1 :: .bytes rho :: rest⟩ m =
      (Gen.Grease.corrupt_response_signature ⟨en, p, .bytes rho :: rest⟩ m).bind fun t => .ok (t.1, t.2) := by
  unfold Gen.Grease.add_errors
  simp only [Res.pure_eq, Res.bind_eq, choose_pick1]

/-- the draws the Rust code makes for one response, given the decision: the Bernoulli coin, and when it says "corrupt":
    the choice among `ALL_PATHOLOGIES = [RandomlyOrderTags, CorruptResponseSignature]` and that pathology's own draw -/
def encDecision : Grease → List Gen.Draw
  | .none => [.coin false]
  | .reorder perm => [.coin true, .pick 0, .perm perm]
  | .corruptSig rho => [.coin true, .pick 1, .bytes rho]

theorem add_errors_sim_gen (en : Bool) (p : Nat) (g : Grease) (hg : g ≠ Grease.none)
    (hrho : ∀ rho, g = Grease.corruptSig rho → rho.length = 64) (rest : Gen.Tape) (r : Msg) :
    Gen.Grease.add_errors ⟨en, p, (encDecision g).tail ++ rest⟩ (toGen r) ≃ᵣ
      (applyGrease g r).map (fun m => (toGen m, (⟨en, p, tapeAfter g r rest⟩ : Gen.Grease))) := by
  cases g with
  | none => exact absurd rfl hg
  | reorder perm =>
    simp only [encDecision, List.tail_cons, List.cons_append, List.nil_append, tapeAfter]
    rw [add_errors_reorder]
    exact Res.bind_ok_right _ ▸ randomly_order_tags_sim en p perm rest r
  | corruptSig rho =>
    simp only [encDecision, List.tail_cons, List.cons_append, List.nil_append, tapeAfter]
    rw [add_errors_corrupt]
    cases hs : (r.get Tag.SIG).isNone with
    | true =>
      simp only [corrupt_nosig_eq _ r hs, applyGrease, hs, if_true, Res.bind_ok, Res.map_ok]
      exact .ok rfl
    | false =>
      simp only [Bool.false_eq_true, if_false]
      exact Res.bind_ok_right _ ▸ corrupt_sig_sim en p rho (hrho rho rfl) rest r hs

theorem grease_new_eq (p : Nat) (tape : Gen.Tape) :
    Gen.Grease.new p tape = .ok ⟨decide (p > 0), p, tape⟩ := by
  rfl

theorem should_add_error_disabled (p : Nat) (tape : Gen.Tape) :
    Gen.Grease.should_add_error ⟨false, p, tape⟩ = .ok (false, ⟨false, p, tape⟩) := by
  rfl

theorem should_add_error_enabled (p : Nat) (g : Grease) (rest : Gen.Tape) :
    Gen.Grease.should_add_error ⟨true, p, encDecision g ++ rest⟩ =
      .ok (decide (g ≠ Grease.none), ⟨true, p, (encDecision g).tail ++ rest⟩) := by
  cases g <;> rfl

/-- the statement of `add_errors_sim` WITHOUT the hypothesis `hsig` below is false: a `corruptSig` decision applied to
    a message without SIG returns before `fill_bytes`, so the `.bytes rho` draw of `encDecision` stays on the tape
    (left side: tape `[.bytes rho]`; right side: tape `[]`) -/
theorem add_errors_sim_needs_sig :
    ¬ (Gen.Grease.add_errors ⟨true, 50, (encDecision (.corruptSig (List.replicate 64 7))).tail ++ []⟩
          (toGen ⟨[(Tag.NONC, [1, 2, 3, 4])]⟩) ≃ᵣ
        (applyGrease (.corruptSig (List.replicate 64 7)) ⟨[(Tag.NONC, [1, 2, 3, 4])]⟩).map
          (fun m => (toGen m, (⟨true, 50, []⟩ : Gen.Grease)))) := by
  intro h
  have h2 := add_errors_sim_gen true 50 (.corruptSig (List.replicate 64 7)) (by simp)
    (by intro rho e; cases e; simp) [] ⟨[(Tag.NONC, [1, 2, 3, 4])]⟩
  have h3 := Res.Sim.trans (Res.Sim.symm h) h2
  simp [applyGrease, Msg.get, Res.map, tapeAfter] at h3

/-- `add_errors` after a coin that said "corrupt" applies the decision exactly as the model does (64 random bytes for a
    signature corruption), consuming exactly this decision's draws.  A signature corruption is only claimed for a message
    that has a SIG field (`hsig`; every response of `make_response` has one): without that hypothesis the statement is
    false, see `add_errors_sim_needs_sig`; the general fact is `add_errors_sim_gen`. -/
theorem add_errors_sim (en : Bool) (p : Nat) (g : Grease) (hg : g ≠ Grease.none)
    (hrho : ∀ rho, g = Grease.corruptSig rho → rho.length = 64) (rest : Gen.Tape) (r : Msg)
    (hsig : ∀ rho, g = Grease.corruptSig rho → (r.get Tag.SIG).isSome) :
    Gen.Grease.add_errors ⟨en, p, (encDecision g).tail ++ rest⟩ (toGen r) ≃ᵣ
      (applyGrease g r).map (fun m => (toGen m, (⟨en, p, rest⟩ : Gen.Grease))) := by
  have h := add_errors_sim_gen en p g hg hrho rest r
  rwa [tapeAfter_of_sig g r rest hsig] at h

/-- the environment `Gen.GreaseQ` used by the generated `send_responses` is this injector: drawing a decision and
    applying it = `should_add_error` followed (when true) by `add_errors` on the encoded tape -/
theorem greaseq_is_grease (p : Nat) (g : Grease) (hrho : ∀ rho, g = Grease.corruptSig rho → rho.length = 64)
    (gs : List Grease) (cur : Grease) (rest : Gen.Tape) (r : Msg) :
    (match Gen.Grease.should_add_error ⟨true, p, encDecision g ++ rest⟩ with
     | .ok (true, s) => (Gen.Grease.add_errors s (toGen r)).bind fun x => .ok x.1
     | .ok (false, _) => .ok (toGen r)
     | .err => .err
     | .panic q => .panic q)
      ≃ᵣ (if (Gen.GreaseQ.draw ⟨g :: gs, cur⟩).1 then Gen.GreaseQ.addErrors (Gen.GreaseQ.draw ⟨g :: gs, cur⟩).2 (toGen r)
          else .ok (toGen r)) := by
  rw [should_add_error_enabled, grease_step_eq (g :: gs) cur r]
  by_cases hg : g = Grease.none
  · subst hg
    exact .refl _
  · have hdec : decide (g ≠ Grease.none) = true := by simpa using hg
    simp only [hdec, ← Res.map_eq_bind]
    exact ((add_errors_sim_gen true p g hg hrho rest r).map Prod.fst).trans (.of_eq (Res.map_map ..))

end Bridge
end Rough
