import Rough.Gen.Prelude
import Rough.Model.Codec
/-
  Bridge between the code generated from /repo's Rust sources (`Rough.Gen.*`, regenerated on every run by
  checklib/rs2lean) and the hand-written model (`Rough.Model.*`) that the property theorems are about.

  `Res.Sim r s`: same outcome — equal values, both errors, or both panics (panic *site strings* are not compared:
  the two sides name their sites differently, `"message.rs:multi_tag_message:sub#3"` generated against the model's
  `"message.rs:multi_tag_message:bytes.len()-header_end"`).

  A bridge theorem has the shape `generated ≃ᵣ model.map toGen`.  Proofs compose such facts along the binds of the
  generated function with `Sim.bind_map`; they never case on both sides by hand: once the model side is known, the
  generated side is determined (`Sim.eq_ok`, `Sim.ok_iff`, `Sim.err_iff`, `Sim.isPanic_eq`).
-/
namespace Rough

def Res.Sim {α : Type} (r s : Res α) : Prop :=
  match r, s with
  | .ok a, .ok b => a = b
  | .err, .err => True
  | .panic _, .panic _ => True
  | _, _ => False

infix:50 " ≃ᵣ " => Res.Sim

namespace Res

def map {α β} (f : α → β) : Res α → Res β
  | .ok a => .ok (f a)
  | .err => .err
  | .panic s => .panic s

@[simp] theorem map_ok {α β} (f : α → β) (a : α) : (Res.ok a).map f = .ok (f a) := rfl
@[simp] theorem map_err {α β} (f : α → β) : (Res.err : Res α).map f = .err := rfl
@[simp] theorem map_panic {α β} (f : α → β) (s : String) : (Res.panic s : Res α).map f = .panic s := rfl

theorem map_id {α} (r : Res α) : r.map id = r := by
  cases r <;> rfl

theorem map_map {α β γ} (f : α → β) (g : β → γ) (r : Res α) : (r.map f).map g = r.map (g ∘ f) := by
  cases r <;> rfl

theorem map_bind {α β γ} (r : Res α) (f : α → Res β) (g : β → γ) :
    (r.bind f).map g = r.bind fun a => (f a).map g := by
  cases r <;> rfl

theorem bind_map {α β γ} (r : Res α) (f : α → β) (g : β → Res γ) : (r.map f).bind g = r.bind fun a => g (f a) := by
  cases r <;> rfl

theorem map_eq_bind {α β} (r : Res α) (f : α → β) : r.map f = r.bind fun a => .ok (f a) := by
  cases r <;> rfl

theorem bind_eq_map {α β} (r : Res α) {k : α → Res β} {f : α → β} (h : ∀ a, k a = .ok (f a)) : r.bind k = r.map f := by
  rw [map_eq_bind, funext h]

/-- a fold of binds that returns at every step, followed through an embedding `emb` of the model state under an
    invariant `P` -/
theorem foldl_bind_ok {α β γ : Type} (emb : γ → β) (P : γ → Prop) {f : β → α → Res β} {step : γ → α → γ}
    (h : ∀ c a, P c → f (emb c) a = .ok (emb (step c a)) ∧ P (step c a)) (l : List α) :
    ∀ c, P c → l.foldl (fun r a => r.bind fun b => f b a) (Res.ok (emb c)) = .ok (emb (l.foldl step c)) := by
  induction l with
  | nil => exact fun _ _ => rfl
  | cons a l ih => exact fun c hc => by rw [List.foldl_cons, bind_ok, (h c a hc).1]; exact ih _ (h c a hc).2

theorem map_eq_ok {α β} {r : Res α} {f : α → β} {b : β} : r.map f = .ok b ↔ ∃ a, r = .ok a ∧ f a = b := by
  cases r with
  | ok a => exact ⟨fun h => ⟨a, rfl, Res.ok.inj h⟩, fun ⟨_, e, h⟩ => by cases e; exact congrArg Res.ok h⟩
  | err => exact ⟨nofun, nofun⟩
  | panic s => exact ⟨nofun, nofun⟩

/-! ### the relator of `Res`

`Rel R r s`: outcomes of the same kind and, when both return, values related by `R`.  `r ≃ᵣ s` is `Rel Eq r s`;
`r ≃ᵣ s.map q` is `Rel (fun a b => a = q b) r s`; `r.map p ≃ᵣ s.map q` is `Rel (fun a b => p a = q b) r s`. -/

def Rel {α β : Type} (R : α → β → Prop) : Res α → Res β → Prop
  | .ok a, .ok b => R a b
  | .err, .err => True
  | .panic _, .panic _ => True
  | _, _ => False

namespace Rel
variable {α β γ δ ε : Type} {R : α → β → Prop} {r : Res α} {s : Res β}

/-- three cases instead of nine -/
@[elab_as_elim] theorem casesOn {motive : Res α → Res β → Prop} (h : Rel R r s)
    (ok : ∀ a b, R a b → motive (.ok a) (.ok b)) (err : motive .err .err)
    (panic : ∀ p q, motive (.panic p) (.panic q)) : motive r s :=
  match r, s, h with
  | .ok a, .ok b, h => ok a b h
  | .err, .err, _ => err
  | .panic p, .panic q, _ => panic p q
  | .ok _, .err, h | .ok _, .panic _, h | .err, .ok _, h | .err, .panic _, h | .panic _, .ok _, h
  | .panic _, .err, h => h.elim

theorem ok {a : α} {b : β} (h : R a b) : Rel R (.ok a) (.ok b) := h
theorem err : Rel R (.err : Res α) .err := trivial
theorem panic (p q : String) : Rel R (.panic p : Res α) (.panic q) := trivial

theorem refl (r : Res α) : Rel Eq r r := by
  cases r with
  | ok a => exact rfl
  | err => exact trivial
  | panic s => exact trivial

theorem mono {R' : α → β → Prop} (h : Rel R r s) (hR : ∀ a b, R a b → R' a b) : Rel R' r s :=
  h.casesOn hR trivial fun _ _ => trivial

theorem strengthen (h : Rel R r s) : Rel (fun a b => r = .ok a ∧ s = .ok b ∧ R a b) r s :=
  h.casesOn (motive := fun r s => Rel (fun a b => r = .ok a ∧ s = .ok b ∧ R a b) r s)
    (fun _ _ hab => ⟨rfl, rfl, hab⟩) trivial fun _ _ => trivial

theorem flip (h : Rel R r s) : Rel (fun b a => R a b) s r :=
  h.casesOn (motive := fun r s => Rel (fun b a => R a b) s r) (fun _ _ hab => hab) trivial fun _ _ => trivial

theorem comp {S : β → ε → Prop} {t : Res ε} (h₁ : Rel R r s) (h₂ : Rel S s t) :
    Rel (fun a c => ∃ b, R a b ∧ S b c) r t := by
  revert h₁
  refine h₂.casesOn (motive := fun s t => Rel R r s → Rel (fun a c => ∃ b, R a b ∧ S b c) r t) ?_ ?_ ?_
  · intro b c hbc h₁
    obtain ⟨a, rfl, hab⟩ : ∃ a, r = .ok a ∧ R a b := h₁.casesOn (motive := fun r s => ∀ b, s = .ok b → ∃ a, r = .ok a ∧ R a b)
      (fun a _ hab _ e => ⟨a, rfl, Res.ok.inj e ▸ hab⟩) (fun _ e => nomatch e) (fun _ _ _ e => nomatch e) b rfl
    exact ⟨b, hab, hbc⟩
  · intro h₁; cases r <;> first | exact h₁ | exact trivial
  · intro p q h₁; cases r <;> first | exact h₁ | exact trivial

theorem bind {Q : γ → δ → Prop} {f : α → Res γ} {g : β → Res δ} (h : Rel R r s)
    (hf : ∀ a b, R a b → Rel Q (f a) (g b)) : Rel Q (r.bind f) (s.bind g) :=
  h.casesOn (motive := fun r s => Rel Q (r.bind f) (s.bind g)) hf trivial fun _ _ => trivial

theorem bind_right {Q : α → δ → Prop} {g : β → Res δ} (h : Rel R r s)
    (hg : ∀ a b, R a b → Rel Q (.ok a) (g b)) : Rel Q r (s.bind g) :=
  h.casesOn (motive := fun r s => Rel Q r (s.bind g)) hg trivial fun _ _ => trivial

theorem map_left_iff {Q : γ → β → Prop} {f : α → γ} : Rel Q (r.map f) s ↔ Rel (fun a b => Q (f a) b) r s := by
  cases r <;> cases s <;> exact Iff.rfl
theorem map_right_iff {Q : α → δ → Prop} {g : β → δ} : Rel Q r (s.map g) ↔ Rel (fun a b => Q a (g b)) r s := by
  cases r <;> cases s <;> exact Iff.rfl

end Rel

theorem sim_iff_rel {α} {r s : Res α} : r ≃ᵣ s ↔ Rel Eq r s := by
  cases r <;> cases s <;> exact Iff.rfl

@[simp] theorem sim_ok_ok {α} (a b : α) : (Res.ok a ≃ᵣ Res.ok b) ↔ a = b := Iff.rfl
@[simp] theorem sim_err_err {α} : ((Res.err : Res α) ≃ᵣ Res.err) ↔ True := Iff.rfl
@[simp] theorem sim_panic_panic {α} (s t : String) : ((Res.panic s : Res α) ≃ᵣ Res.panic t) ↔ True := Iff.rfl

theorem Sim.ok {α} {a b : α} (h : a = b) : Res.ok a ≃ᵣ .ok b := h
theorem Sim.err {α} : (Res.err : Res α) ≃ᵣ .err := trivial
theorem Sim.panic {α} (s t : String) : (Res.panic s : Res α) ≃ᵣ .panic t := trivial

@[elab_as_elim] theorem Sim.casesOn {α} {motive : Res α → Res α → Prop} {r s : Res α} (h : r ≃ᵣ s)
    (ok : ∀ a, motive (.ok a) (.ok a)) (err : motive .err .err) (panic : ∀ p q, motive (.panic p) (.panic q)) :
    motive r s :=
  (sim_iff_rel.mp h).casesOn (fun a _ e => e ▸ ok a) err panic

theorem Sim.refl {α} (r : Res α) : r ≃ᵣ r := sim_iff_rel.mpr (Rel.refl r)
theorem Sim.of_eq {α} {r s : Res α} (h : r = s) : r ≃ᵣ s := h ▸ Sim.refl r
theorem Sim.symm {α} {r s : Res α} (h : r ≃ᵣ s) : s ≃ᵣ r :=
  h.casesOn (motive := fun r s => s ≃ᵣ r) (fun _ => rfl) trivial fun _ _ => trivial
theorem Sim.trans {α} {r s t : Res α} (h₁ : r ≃ᵣ s) (h₂ : s ≃ᵣ t) : r ≃ᵣ t := by
  revert h₁
  exact h₂.casesOn (motive := fun s t => r ≃ᵣ s → r ≃ᵣ t) (fun _ h => h) (fun h => h)
    fun _ _ h => by cases r <;> first | exact h | exact trivial

theorem Sim.eq_ok {α} {r : Res α} {a : α} (h : r ≃ᵣ .ok a) : r = .ok a :=
  h.casesOn (motive := fun r s => s = .ok a → r = .ok a) (fun _ e => e) (fun e => e) (fun _ _ e => nomatch e) rfl

theorem Sim.ok_iff {α} {r s : Res α} (h : r ≃ᵣ s) (a : α) : r = .ok a ↔ s = .ok a :=
  h.casesOn (motive := fun r s => r = .ok a ↔ s = .ok a) (fun _ => Iff.rfl) Iff.rfl fun _ _ => ⟨nofun, nofun⟩
theorem Sim.err_iff {α} {r s : Res α} (h : r ≃ᵣ s) : r = .err ↔ s = .err :=
  h.casesOn (motive := fun r s => r = .err ↔ s = .err) (fun _ => Iff.rfl) Iff.rfl fun _ _ => ⟨nofun, nofun⟩
theorem Sim.isPanic_eq {α} {r s : Res α} (h : r ≃ᵣ s) : r.isPanic = s.isPanic :=
  h.casesOn (motive := fun r s => r.isPanic = s.isPanic) (fun _ => rfl) rfl fun _ _ => rfl

theorem Sim.map {α β} {r s : Res α} (h : r ≃ᵣ s) (f : α → β) : r.map f ≃ᵣ s.map f :=
  h.casesOn (motive := fun r s => r.map f ≃ᵣ s.map f) (fun _ => rfl) trivial fun _ _ => trivial

theorem Rel.of_sim_map {α β} {r : Res α} {s : Res β} {q : β → α} (h : r ≃ᵣ s.map q) : Rel (fun a b => a = q b) r s :=
  Rel.map_right_iff.mp (sim_iff_rel.mp h)

theorem Rel.map_sim_iff {α β γ} {r : Res α} {s : Res β} {p : α → γ} {q : β → γ} :
    r.map p ≃ᵣ s.map q ↔ Rel (fun a b => p a = q b) r s :=
  sim_iff_rel.trans (Rel.map_left_iff.trans Rel.map_right_iff)

/-! The bind rules differ in where the embedding of model values stands, which the goal's shape decides:
    `bind` when both sides run the same computation type (`r ≃ᵣ s`, goal `r.bind f ≃ᵣ s.bind g`);
    `bind_map` when the first step is a bridged call (`r ≃ᵣ s.map q`) and the embedding is inside the continuations;
    `bind_map_map` the same with the goal's model side still under its `map t` (the usual shape of a bridge theorem);
    `bind_mapR` when the first step needs no embedding (`r ≃ᵣ s`) and the goal's model side is under `map t`;
    `bind_of_map` when the two first steps agree only on an observation (`r.map p ≃ᵣ s.map q`);
    `Rel.bind` / `Rel.bind_right` when values are related by something other than an embedding. -/

theorem Sim.bind_map {α β δ : Type} {r : Res α} {s : Res β} {q : β → α} (h : r ≃ᵣ s.map q)
    {f : α → Res δ} {g : β → Res δ} (hf : ∀ b, s = .ok b → f (q b) ≃ᵣ g b) : r.bind f ≃ᵣ s.bind g :=
  sim_iff_rel.mpr ((Rel.of_sim_map h).strengthen.bind fun _ b ⟨_, hs, e⟩ => e ▸ sim_iff_rel.mp (hf b hs))

theorem Sim.bind_of_map {α β γ δ : Type} {r : Res α} {s : Res β} {p : α → γ} {q : β → γ} (h : r.map p ≃ᵣ s.map q)
    {f : α → Res δ} {g : β → Res δ} (hf : ∀ a b, p a = q b → f a ≃ᵣ g b) : r.bind f ≃ᵣ s.bind g :=
  sim_iff_rel.mpr ((Rel.map_sim_iff.mp h).bind fun a b e => sim_iff_rel.mp (hf a b e))

theorem Sim.bind_map_map {α β γ δ : Type} {r : Res α} {s : Res β} {q : β → α} (h : r ≃ᵣ s.map q)
    {f : α → Res δ} {g : β → Res γ} {t : γ → δ} (hf : ∀ b, s = .ok b → f (q b) ≃ᵣ (g b).map t) :
    r.bind f ≃ᵣ (s.bind g).map t :=
  Res.map_bind s g t ▸ h.bind_map hf

theorem Sim.bind_mapR {α β γ} {r s : Res α} {f : α → Res β} {g : α → Res γ} {t : γ → β}
    (h : r ≃ᵣ s) (hf : ∀ a, s = .ok a → f a ≃ᵣ (g a).map t) : r.bind f ≃ᵣ (s.bind g).map t :=
  Sim.bind_map_map (q := id) ((Res.map_id s).symm ▸ h) hf

theorem Sim.bind {α β} {r s : Res α} {f g : α → Res β} (h : r ≃ᵣ s) (hf : ∀ a, f a ≃ᵣ g a) :
    r.bind f ≃ᵣ s.bind g :=
  h.casesOn (motive := fun r s => r.bind f ≃ᵣ s.bind g) hf trivial fun _ _ => trivial

theorem Sim.ite {α} {c : Prop} {_ : Decidable c} {x y u v : Res α} (h₁ : c → x ≃ᵣ u) (h₂ : ¬ c → y ≃ᵣ v) :
    (if c then x else y) ≃ᵣ (if c then u else v) := by
  split
  · exact h₁ ‹_›
  · exact h₂ ‹_›

theorem Sim.eq_ok_of_map {α β} {r : Res α} {s : Res β} {f : β → α} {b : β} (h : r ≃ᵣ s.map f) (hs : s = .ok b) :
    r = .ok (f b) :=
  Sim.eq_ok (by rw [hs] at h; exact h)
theorem Sim.of_eq_ok_map {α β} {r : Res α} {s : Res β} {f : β → α} {a : α} (h : r ≃ᵣ s.map f) (hr : r = .ok a) :
    ∃ b, s = .ok b ∧ a = f b :=
  (Rel.of_sim_map h).casesOn (motive := fun r s => r = .ok a → ∃ b, s = .ok b ∧ a = f b)
    (fun _ b e e' => ⟨b, rfl, Res.ok.inj e' ▸ e⟩) (fun e => nomatch e) (fun _ _ e => nomatch e) hr

end Res

theorem Rs.sub_sim (a b : Nat) (s s' : String) : Rs.sub a b s ≃ᵣ csub a b s' := by
  unfold Rs.sub csub
  split
  · exact .ok rfl
  · exact .panic _ _

theorem Rs.slice_sim (b : Bytes) (s e : Nat) (site site' : String) : Rs.slice b s e site ≃ᵣ Rough.slice b s e site' := by
  unfold Rs.slice Rough.slice
  split
  · exact .ok rfl
  · exact .panic _ _

theorem Rs.unwrapO_sim {α} (o : Option α) (site site' : String) : Rs.unwrapO o site ≃ᵣ Res.unwrap site' o := by
  cases o
  · exact .panic _ _
  · exact .ok rfl

/-- `assert!(c)` followed by `k`, against the model's `if d then panic else k'` with `d` the negation of `c` -/
theorem Rs.assert_bind_sim {β γ} {c d : Prop} [Decidable c] [Decidable d] (hcd : d ↔ ¬ c) {site site' : String}
    {k : Unit → Res β} {k' : Res γ} {t : γ → β} (hk : c → k () ≃ᵣ k'.map t) :
    (Rs.assert (decide c) site).bind k ≃ᵣ (if d then .panic site' else k').map t := by
  by_cases h : c
  · rw [decide_eq_true h, Rs.assert_true, Res.bind_ok, if_neg fun hd => hcd.mp hd h]
    exact hk h
  · rw [decide_eq_false h, Rs.assert_false, if_pos (hcd.mpr h)]
    exact .panic _ _

/- From here on `≃ᵣ` and `Rel` are used through the lemmas above only.  They are matches on both computations, and the
   term elaborator puts every expected type in weak head normal form: for a goal `Gen.f … ≃ᵣ model …` each `exact`,
   `refine` or `have : _ ≃ᵣ _` would unfold the match and evaluate the generated function symbolically to find a
   constructor, which is slow to check. -/
attribute [irreducible] Res.Sim Res.Rel

end Rough
