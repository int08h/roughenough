import Rough.Bridge.Message
import Rough.Bridge.Loops
import Rough.Generated.Src.Request
import Rough.Lemmas.Request
/-
  Bridge theorems for src/request.rs: the generated request classifier equals the model's `nonceFromRequest`
  (about which `Lemmas.Request.classify_eq` proves agreement with the reference classification, C07 / C12) on
  EVERY receive buffer and datagram length.
-/
namespace Rough
namespace Bridge

theorem get_supported_version_eq (m : Msg) :
    Gen.get_supported_version (toGen m) = .ok (supportedVersion m) := by
  unfold Gen.get_supported_version supportedVersion
  simp only [get_field_eq, Res.bind_eq, Res.bind_ok, Res.pure_eq]
  cases hv : m.get Tag.VER with
  | none => rfl
  | some v =>
    simp only
    rw [Rs.forListR_any (fun c => c == Version.ietf.wire) (some Version.ietf)]
    · simp only [Res.bind_ok]
      cases ((List.take 4 (chunks 4 v)).any fun c => c == Version.ietf.wire) <;> rfl
    · intro c s
      -- the body is itself a loop, over the one-element `SUPPORTED_VERSIONS`
      rw [Rs.forListR_cons]
      by_cases h : Version.ietf.wire = c
      · subst h; simp
      · have h' : (c == Version.ietf.wire) = false := by
          rw [beq_eq_false_iff_ne]; exact fun e => h e.symm
        simp [h, h']

theorem is_rfc_request_eq (buf : Bytes) (h : 8 ≤ buf.length) :
    Gen.is_rfc_request buf = .ok (decide (buf.take 8 = framing)) := by
  unfold Gen.is_rfc_request
  rw [Rs.slice_ok (Nat.zero_le 8) h]
  rfl

theorem nonce_from_classic_request_sim (d : Bytes) :
    Gen.nonce_from_classic_request d ≃ᵣ nonceFromClassic d := by
  unfold Gen.nonce_from_classic_request nonceFromClassic
  simp only [Res.bind_eq, Res.pure_eq]
  refine (from_bytes_sim d).bind_map fun m _ => ?_
  simp only [Res.bind_ok, get_field_eq, Gen.CLASSIC_NONCE_LENGTH]
  cases m.get Tag.NONC <;> exact Res.Sim.refl _

theorem nonce_from_rfc_request_sim (d srv : Bytes) :
    Gen.nonce_from_rfc_request d srv ≃ᵣ nonceFromRfc d srv := by
  unfold Gen.nonce_from_rfc_request nonceFromRfc
  simp only [Res.bind_eq, Res.pure_eq, Res.bind_err]
  by_cases h12 : 12 ≤ d.length
  · -- with the 12-byte header present every slice and the subtraction succeed on both sides
    have h4 : ((d.drop 8).take (12 - 8)).length = 4 := by rw [List.length_take, List.length_drop]; omega
    simp only [Rs.slice_ok (show 8 ≤ 12 by omega) h12, Lemmas.slice_ok (show 8 ≤ 12 by omega) h12, Rs.sub_ok h12, csub,
      if_pos h12, Rs.sliceFrom_ok h12, Lemmas.slice_ok h12 (Nat.le_refl _), Res.bind_ok, Rs.Cursor.readU32_new _ (Nat.le_of_eq h4.symm),
      List.take_of_length_le (Nat.le_of_eq List.length_drop)]
    refine .ite (fun _ => .err) fun _ => ?_
    refine (from_bytes_sim _).bind_map fun m _ => ?_
    simp only [get_supported_version_eq, get_field_eq, Res.bind_ok, Gen.RFC_NONCE_LENGTH]
    -- what is left has no panic site: the same tests on VER, SRV and NONC, equal case by case
    apply Res.Sim.of_eq
    cases supportedVersion m with
    | none => rfl
    | some ver =>
      cases m.get Tag.SRV with
      | none => cases m.get Tag.NONC <;> rfl
      | some s =>
        by_cases hs : s = srv
        · subst hs
          simp only [ne_eq, not_true_eq_false, if_false, bne_self_eq_false, Bool.false_eq_true]
          cases m.get Tag.NONC <;> rfl
        · simp only [hs, not_false_eq_true, if_true, bne_iff_ne, ne_eq]
          rfl
  · -- a shorter datagram: both sides panic at the first slice
    rw [Rs.slice, slice, if_neg (fun h => h12 h.2), if_neg (fun h => h12 h.2)]
    exact .panic _ _

/-- `nonce_from_request(buf, num_bytes, expected_srv)`: `buf` is the receive buffer, the datagram its first `num_bytes`
    bytes -/
theorem nonce_from_request_sim (buf : Bytes) (n : Nat) (srv : Bytes) (hn : n ≤ buf.length) :
    Gen.nonce_from_request buf n srv ≃ᵣ nonceFromRequest (buf.take n) srv := by
  have hlen : (buf.take n).length = n := by rw [List.length_take]; omega
  unfold Gen.nonce_from_request nonceFromRequest
  simp only [hlen, Res.bind_eq, Gen.MIN_REQUEST_LENGTH, Gen.MAX_REQUEST_LENGTH, MIN_REQUEST_LENGTH,
    MAX_REQUEST_LENGTH]
  refine .ite (fun _ => .err) fun h1 => .ite (fun _ => .err) fun h2 => ?_
  have e : ((buf.take n).drop 0).take (8 - 0) = buf.take 8 := by
    rw [List.drop_zero, List.take_take, Nat.sub_zero, Nat.min_eq_left (by omega)]
  simp only [Res.bind_ok, is_rfc_request_eq buf (by omega), Rs.sliceTo_ok hn,
    Lemmas.slice_ok (Nat.zero_le 8) (show 8 ≤ (buf.take n).length by omega), e]
  by_cases hm : buf.take 8 = framing
  · rw [if_pos (decide_eq_true hm), if_pos (beq_iff_eq.mpr hm)]
    exact nonce_from_rfc_request_sim _ _
  · rw [if_neg (mt of_decide_eq_true hm), if_neg (mt eq_of_beq hm)]
    exact nonce_from_classic_request_sim _

theorem nonce_from_request_classify (buf : Bytes) (n : Nat) (srv : Bytes) (hn : n ≤ buf.length) :
    Gen.nonce_from_request buf n srv ≃ᵣ
      Lemmas.Request.expected (Spec.RT.protoOf (buf.take n))
        (Spec.RT.classifyRequest (Spec.RT.protoOf (buf.take n)) srv (buf.take n)) :=
  Lemmas.Request.classify_eq (buf.take n) srv ▸ nonce_from_request_sim buf n srv hn

theorem nonce_from_request_no_panic (buf : Bytes) (n : Nat) (srv : Bytes) (hn : n ≤ buf.length) :
    (Gen.nonce_from_request buf n srv).isPanic = false := by
  rw [(nonce_from_request_classify buf n srv hn).isPanic_eq]
  cases Spec.RT.classifyRequest (Spec.RT.protoOf (buf.take n)) srv (buf.take n) <;> rfl

end Bridge
end Rough
