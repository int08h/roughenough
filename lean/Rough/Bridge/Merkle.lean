import Rough.Generated.Src.Merkle
import Rough.Bridge.MerkleLemmas
import Rough.Model.Server
/-
  Bridge theorems for src/merkle.rs: the code generated from the Rust source (with SHA-512 as the parameter `H`)
  equals, up to `≃ᵣ`, the hand-written model `Rough.Merkle.*` (about which C04's completeness / binding / reuse
  theorems are proved) — for every tree state, leaf, index and path, and for every `H` with 64-byte outputs.
-/
namespace Rough
namespace Bridge
open Rough.Lemmas.Merkle (iterM)

/-- node width of a protocol version -/
def nodeLen : Version → Nat
  | .ietf => 32
  | .google => 64

/-- the model's hash configuration for SHA-512 `H` and a version: first `nodeLen` bytes of `H` -/
def cfgOf (H : Bytes → Bytes) (v : Version) : MerkleCfg := ⟨fun x => (H x).take (nodeLen v), nodeLen v⟩

/-- for SHA-512-sized `H` it is the configuration the server model (`Env.mcfg`) and the client model spell out -/
theorem cfgOf_eq (H : Bytes → Bytes) (hH : ∀ x, (H x).length = 64) (v : Version) :
    cfgOf H v = (match v with
      | Version.google => ⟨H, 64⟩
      | Version.ietf => ⟨fun x => (H x).take 32, 32⟩ : MerkleCfg) := by
  cases v with
  | ietf => rfl
  | google =>
    simp only [cfgOf, nodeLen]
    congr 1
    funext x
    exact List.take_of_length_le (by rw [hH]; omega)

theorem mcfg_eq (E : Env) (hH : ∀ x, (E.H x).length = 64) (v : Version) : E.mcfg v = cfgOf E.H v :=
  (cfgOf_eq E.H hH v).symm

/-- the generated `MerkleTree` of a model tree -/
def toGenTree (v : Version) (t : Tree) : Gen.MerkleTree := ⟨t.levels, v⟩

@[simp] theorem toGenTree_levels (v : Version) (t : Tree) : (toGenTree v t).levels = t.levels := rfl
@[simp] theorem toGenTree_version (v : Version) (t : Tree) : (toGenTree v t).version = v := rfl

theorem new_eq (H : Bytes → Bytes) (v : Version) : Gen.MerkleTree.new H v = .ok (toGenTree v Merkle.new) := by
  cases v <;> rfl

theorem nodeLen_le (v : Version) : nodeLen v ≤ 64 := by cases v <;> simp [nodeLen]
theorem nodeLen_ne_zero (v : Version) : nodeLen v ≠ 0 := by cases v <;> simp [nodeLen]

theorem node_len_eq (H : Bytes → Bytes) (g : Gen.MerkleTree) :
    Gen.MerkleTree.node_len H g = .ok (nodeLen g.version) := by
  obtain ⟨_, v⟩ := g; cases v <;> rfl

theorem hash_eq (H : Bytes → Bytes) (hH : ∀ x, (H x).length = 64) (g : Gen.MerkleTree) (l : List Bytes) :
    Gen.MerkleTree.hash H g l = .ok ((H l.flatten).take (nodeLen g.version)) := by
  unfold Gen.MerkleTree.hash
  simp only [Res.pure_eq, Rs.forList_pure]
  simp [node_len_eq, Rs.sliceTo_ok, hH, nodeLen_le, List.foldl_append_flatten]

theorem hash_leaf_eq (H : Bytes → Bytes) (hH : ∀ x, (H x).length = 64) (g : Gen.MerkleTree) (d : Bytes) :
    Gen.MerkleTree.hash_leaf H g d = .ok (Merkle.hashLeaf (cfgOf H g.version) d) := by
  simp [Gen.MerkleTree.hash_leaf, hash_eq H hH, Merkle.hashLeaf, cfgOf, Gen.TREE_LEAF_TWEAK]

theorem hash_nodes_eq (H : Bytes → Bytes) (hH : ∀ x, (H x).length = 64) (g : Gen.MerkleTree) (a b : Bytes) :
    Gen.MerkleTree.hash_nodes H g a b = .ok (Merkle.hashNodes (cfgOf H g.version) a b) := by
  simp [Gen.MerkleTree.hash_nodes, hash_eq H hH, Merkle.hashNodes, cfgOf, Gen.TREE_NODE_TWEAK]

theorem finalize_output_sim (H : Bytes → Bytes) (g : Gen.MerkleTree) (d : Bytes) :
    Gen.MerkleTree.finalize_output H g d ≃ᵣ Merkle.finalize g.version.isIetf d := by
  obtain ⟨_, v⟩ := g
  cases v
  · exact Res.Sim.refl _
  · exact Rs.slice_sim _ _ _ _ _

theorem push_leaf_sim (H : Bytes → Bytes) (hH : ∀ x, (H x).length = 64) (v : Version) (t : Tree) (d : Bytes) :
    Gen.MerkleTree.push_leaf H (toGenTree v t) d ≃ᵣ (Merkle.pushLeaf (cfgOf H v) t d).map (toGenTree v) := by
  unfold Gen.MerkleTree.push_leaf
  simp only [hash_leaf_eq H hH, Res.pure_eq, Res.bind_eq, Res.bind_ok, Merkle.pushLeaf, Res.map_bind, toGenTree_levels,
    toGenTree_version]
  exact modify_sim _ _ _ _ _ _ fun _ => Res.Sim.refl _

theorem reset_eq (H : Bytes → Bytes) (v : Version) (t : Tree) :
    Gen.MerkleTree.reset H (toGenTree v t) = .ok (toGenTree v (Merkle.reset t)) := by
  unfold Gen.MerkleTree.reset
  simp only [Res.pure_eq, Rs.forList_pure]
  rw [List.foldl_snoc_const]
  simp [toGenTree, Merkle.reset]

theorem is_empty_sim (H : Bytes → Bytes) (v : Version) (t : Tree) :
    Gen.MerkleTree.is_empty H (toGenTree v t) ≃ᵣ Merkle.isEmpty t := by
  exact idx_bind_sim _ _ _ _ fun _ _ => .ok rfl

theorem get_paths_sim (H : Bytes → Bytes) (v : Version) (t : Tree) (i : Nat) :
    Gen.MerkleTree.get_paths H (toGenTree v t) i ≃ᵣ Merkle.getPaths t i := by
  unfold Gen.MerkleTree.get_paths Merkle.getPaths
  simp only [node_len_eq, Res.pure_eq, Res.bind_eq, Res.bind_ok, toGenTree_levels]
  refine Res.Sim.bind_of_map (paths_while t.levels ?s1 ?s2 ?s3 ?s4 _ _ ?hc ?hf (t.levels.length + 1) 0 i _ (by omega)) ?_
  case hc => intros; rfl
  case hf => intros; rfl
  intro a b hab
  simp only [Rs.withCapacity, List.nil_append, Prod.mk.injEq] at hab
  rw [hab.1, hab.2]
  -- `assert!(level <= 32)` of the generated code against the model's `if level > 32 then panic`
  by_cases h : b.2 ≤ 32
  · have h' : ¬ b.2 > 32 := by omega
    simp [h, h']
  · have h' : b.2 > 32 := by omega
    simp [h, h']

/-- the left side is the body of the inner `for i in 0..node_count` loop of `compute_root` as generated (it reads
    `levels[level-1]` twice) -/
theorem inner_step_sim (c : MerkleCfg) (v : Version) (lv i : Nat)
    (ls : List (List Bytes)) (s5 s6 s7 s8 s9 s10 : String) :
    ((Rs.idx ls lv s5).bind fun below => (Rs.idx below (i * 2) s6).bind fun x =>
      (Rs.idx ls lv s7).bind fun below' => (Rs.idx below' (i * 2 + 1) s8).bind fun y =>
      (Rs.idx ls (lv + 1) s9).bind fun cur =>
      (Rs.setIdx ls (lv + 1) (cur ++ [Merkle.hashNodes c x y]) s10).bind fun l' =>
        Res.ok (Rs.Step.next (⟨l', v⟩ : Gen.MerkleTree))) ≃ᵣ
      (Merkle.pushParents c ls (lv + 1) i 1).map (fun t' => Rs.Step.next (⟨t', v⟩ : Gen.MerkleTree)) := by
  simp only [Merkle.pushParents, Nat.add_sub_cancel, Res.map_bind, Res.map_ok]
  refine idx_bind_sim _ _ _ _ fun below h0 => idx_bind_sim _ _ _ _ fun x _ => ?_
  rw [Rs.idx_ok h0, Res.bind_ok]
  exact idx_bind_sim _ _ _ _ fun y _ => modify_sim _ _ _ _ _ _ fun _ => .ok rfl

theorem compute_root_sim (H : Bytes → Bytes) (hH : ∀ x, (H x).length = 64) (v : Version) (t : Tree) :
    Gen.MerkleTree.compute_root H (toGenTree v t) ≃ᵣ
      (Merkle.computeRoot (cfgOf H v) v.isIetf t).map (fun p => (p.2, toGenTree v p.1)) := by
  unfold Gen.MerkleTree.compute_root Merkle.computeRoot
  rw [Res.map_bind]
  refine idx_bind_sim _ _ _ _ fun l0 (h0 : t.levels[0]? = some l0) => ?_
  by_cases he : l0.isEmpty = true
  · rw [if_pos he, he]; exact .panic _ _
  · rw [if_neg he, Res.map_bind]
    -- the assertion holds, `levels[0]` is read again for its length
    simp only [Res.pure_eq, Res.bind_eq, toGenTree_levels, Rs.idx_ok h0, Res.bind_ok, Bool.not_eq_true _ ▸ he,
      Bool.not_false, Rs.assert_true]
    refine Res.Sim.bind_of_map
      (root_while (cfgOf H v) (fun ls => (⟨ls, v⟩ : Gen.MerkleTree)) _ _ ?hc ?hf l0.length t.levels 0 l0.length) ?_
    case hc => intros; rfl
    case hf =>
      intro ls lv nc
      -- the first `if` only chooses the level vector the iteration works on; it is decided before `simp` runs so
      -- that only the branch taken is normalised (each holds two copies of the inner loop)
      by_cases h : ls.length < lv + 1 + 1 <;>
      · simp only [↓reduceIte, h, iterM, Rs.sub_ok, Nat.le_add_left, Nat.add_sub_cancel, node_len_eq, hash_nodes_eq H hH,
          Res.bind_ok]
        exact iter_sim (cfgOf H v) (fun ls => (⟨ls, v⟩ : Gen.MerkleTree)) lv _
          (fun i ls' => inner_step_sim (cfgOf H v) v lv i ls' _ _ _ _ _ _) _ nc _ _
    -- after the loop `levels[level]` is read three times and written once, in the model read once
    intro ⟨g, lv, nc⟩ ⟨ls, lv'⟩ hab
    cases hab
    rw [Res.map_bind]
    refine idx_bind_sim _ _ _ _ fun top h1 => ?_
    simp only [Rs.idx_ok h1, Rs.setIdx_ok h1, Res.bind_ok]
    refine Rs.assert_bind_sim Iff.rfl fun _ => ?_
    cases top.getLast? with
    | none => exact .panic _ _
    | some r =>
      rw [Rs.unwrapO_some, Res.bind_ok, Res.map_bind]
      exact Res.Sim.bind (finalize_output_sim H _ r) fun _ => .ok rfl

/-- of the final state `(index, hash)` of the verifier's loop only the hash is used afterwards, hence the
    continuation `K` -/
theorem climb_forList {β : Type} (c : MerkleCfg) (f : Bytes → Nat × Bytes → Res (Rs.Step (Nat × Bytes)))
    (hf : ∀ p i h, f p (i, h) = .ok (.next (i / 2, if i % 2 = 0 then Merkle.hashNodes c h p else Merkle.hashNodes c p h)))
    (K : Bytes → Res β) : ∀ (ps : List Bytes) (i : Nat) (h : Bytes),
      ((Rs.forList ps (i, h) f).bind fun s => K s.2) = K (Merkle.climbChunks c h i ps) := by
  intro ps
  induction ps with
  | nil => exact fun i h => rfl
  | cons p ps ih =>
    intro i h
    rw [Rs.forList_cons, hf]
    exact ih _ _

/-- `root_from_paths` (the verifier side) -/
theorem root_from_paths_sim (H : Bytes → Bytes) (hH : ∀ x, (H x).length = 64) (v : Version) (t : Tree)
    (i : Nat) (d p : Bytes) :
    Gen.MerkleTree.root_from_paths H (toGenTree v t) i d p ≃ᵣ Merkle.rootFromPaths (cfgOf H v) v.isIetf i d p := by
  unfold Gen.MerkleTree.root_from_paths Merkle.rootFromPaths
  have hN : (cfgOf H v).N = nodeLen v := rfl
  simp only [hash_leaf_eq H hH, node_len_eq, Res.pure_eq, Res.bind_eq, Res.bind_ok, Rs.rem, nodeLen_ne_zero, if_false,
    toGenTree_version, hN]
  by_cases hm : p.length % nodeLen v = 0
  · simp only [hm, decide_true, Rs.assert_true, Res.bind_ok, ne_eq, not_true, if_false]
    rw [climb_forList (cfgOf H v) _ ?hf (Gen.MerkleTree.finalize_output H (toGenTree v t))]
    · exact finalize_output_sim H (toGenTree v t) _
    · intro p i h
      have hs : i >>> 1 = i / 2 := by simp [Nat.shiftRight_eq_div_pow]
      simp only [Nat.and_one_is_mod, hs, Rs.sliceTo_ok, hH, nodeLen_le, Res.bind_ok]
      split <;> simp [Merkle.hashNodes, cfgOf, Gen.TREE_NODE_TWEAK]
  · simp [hm]

end Bridge
end Rough
