import Rough.Bridge.Basic
/-
  Rules for the loop and `HashMap` combinators of the prelude that do not depend on any particular generated function:
  a `for` loop that computes a fold and a `while let Some(x) = queue.pop()` loop, both up to a relation between generated
  and model state, a search loop, and the map operations `mapEnsure` / `mapModify` / `mapIdx` commuting with a map over the values.
-/
namespace Rough
namespace Rs

/-- `r` returns normally with a value satisfying `P` -/
def Post {α : Type} (r : Res α) (P : α → Prop) : Prop := ∃ a, r = .ok a ∧ P a

theorem Post.ok {α} {a : α} {P : α → Prop} (h : P a) : Post (.ok a) P := ⟨a, rfl, h⟩

theorem Post.bind {α β} {r : Res α} {K : α → Res β} {P : α → Prop} {Q : β → Prop}
    (h : Post r P) (hK : ∀ a, P a → Post (K a) Q) : Post (r.bind K) Q := by
  obtain ⟨a, rfl, ha⟩ := h; exact hK a ha

theorem Post.eq {α} {r : Res α} {b : α} (h : Post r (· = b)) : r = .ok b := by
  obtain ⟨a, rfl, rfl⟩ := h; rfl

/-- a `for` loop over `xs.map g` whose body takes `R`-related states to `R`-related states, the model side by `step` on
    the elements of `xs` themselves, computes the fold up to `R`; what `R` does not mention (a counter that only feeds a
    log line) may change in any way -/
theorem forList_foldl {α β σ τ : Type} (R : σ → τ → Prop) (g : β → α) (step : τ → β → τ)
    {body : α → σ → Res (Step σ)}
    (h : ∀ x s t, R s t → Post (body (g x) s) fun r => ∃ s', r = .next s' ∧ R s' (step t x)) :
    ∀ (xs : List β) s t, R s t → Post (forList (xs.map g) s body) fun s' => R s' (xs.foldl step t) := by
  intro xs
  induction xs with
  | nil => exact fun s t hR => ⟨s, rfl, hR⟩
  | cons x xs ih =>
    intro s t hR
    obtain ⟨_, h₁, s₁, rfl, hR₁⟩ := h x s t hR
    rw [List.map_cons, forList_cons, h₁]
    exact ih s₁ _ hR₁

/-- a search loop `for c in l { if p(c) { return r } }` returns `r` exactly when some element passes `p` -/
theorem forListR_any {α ρ : Type} (p : α → Bool) (r : ρ) (f : α → Unit → Res (Flow Unit ρ))
    (hf : ∀ c s, f c s = .ok (if p c = true then Flow.ret r else Flow.next ())) (l : List α) :
    forListR l () f = .ok (if l.any p = true then Flow.ret r else Flow.next ()) := by
  induction l with
  | nil => rfl
  | cons c l ih =>
    rw [forListR_cons, hf, List.any_cons]
    cases h : p c
    · simpa using ih
    · simp

/-- the shape of `while let Some(x) = queue.pop() { .. }`: the condition is always true, the body breaks on the empty
    queue and otherwise consumes its head -/
theorem whileFuel_drain {β σ τ : Type} (R : σ → List β → τ → Prop) (step : τ → β → τ)
    {c : σ → Res Bool} {f : σ → Res (Step σ)} (hc : ∀ s, c s = .ok true)
    (hnil : ∀ s t, R s [] t → Post (f s) fun r => ∃ s', r = .brk s' ∧ R s' [] t)
    (hcons : ∀ s x q t, R s (x :: q) t → Post (f s) fun r => ∃ s', r = .next s' ∧ R s' q (step t x)) :
    ∀ (q : List β) s t fuel, q.length < fuel → R s q t →
      Post (whileFuel fuel s c f) fun s' => R s' [] (q.foldl step t) := by
  intro q
  induction q with
  | nil =>
    intro s t fuel hf hR
    obtain ⟨k, rfl⟩ : ∃ k, fuel = k + 1 := ⟨fuel - 1, by simp only [List.length_nil] at hf; omega⟩
    obtain ⟨_, h', s', rfl, hR'⟩ := hnil s t hR
    exact ⟨s', by rw [whileFuel, hc, h'], hR'⟩
  | cons x q ih =>
    intro s t fuel hf hR
    obtain ⟨k, rfl⟩ : ∃ k, fuel = k + 1 := ⟨fuel - 1, by omega⟩
    obtain ⟨_, h₁, s₁, rfl, hR₁⟩ := hcons s x q t hR
    rw [whileFuel, hc, h₁]
    exact ih s₁ _ k (by simp only [List.length_cons] at hf; omega) hR₁

section
variable {κ α β : Type} [BEq κ]

theorem mapModify_cons (e : κ × α) (m : List (κ × α)) (k : κ) (f : α → α) :
    mapModify (e :: m) k f = (if e.1 == k then (e.1, f e.2) else e) :: mapModify m k f := rfl

theorem mapEnsure_cons (e : κ × α) (m : List (κ × α)) (k : κ) (d : α) :
    mapEnsure (e :: m) k d = if e.1 == k then e :: m else e :: mapEnsure m k d := by
  unfold mapEnsure
  rw [List.any_cons]
  cases e.1 == k
  · rw [Bool.false_or]; split <;> rfl
  · rfl

theorem mapModify_mapModify (m : List (κ × α)) (k : κ) (f g : α → α) :
    mapModify (mapModify m k f) k g = mapModify m k (fun x => g (f x)) := by
  unfold mapModify
  rw [List.map_map]
  apply List.map_congr_left
  intro e _
  simp only [Function.comp]
  split <;> simp [*]

theorem mapModify_of_not_mem [LawfulBEq κ] (m : List (κ × α)) (k : κ) (f : α → α) (h : k ∉ m.map (·.1)) :
    mapModify m k f = m := by
  induction m with
  | nil => rfl
  | cons e m ih =>
    rw [List.map_cons, List.mem_cons, not_or] at h
    rw [mapModify_cons, ih h.2, if_neg (fun he => h.1 (eq_of_beq he).symm)]

theorem mapEnsure_map (g : κ → α → β) (m : List (κ × α)) (k : κ) (d : α) :
    mapEnsure (m.map fun p => (p.1, g p.1 p.2)) k (g k d) = (mapEnsure m k d).map fun p => (p.1, g p.1 p.2) := by
  unfold mapEnsure
  have : ((m.map fun p => (p.1, g p.1 p.2)).any fun e => e.1 == k) = m.any fun e => e.1 == k := by
    rw [List.any_map]; rfl
  rw [this]
  split
  · rfl
  · rw [List.map_append]; rfl

theorem mapModify_map [LawfulBEq κ] (g : κ → α → β) (m : List (κ × α)) (k : κ) (F : β → β) (f : α → α)
    (h : ∀ x, F (g k x) = g k (f x)) :
    mapModify (m.map fun p => (p.1, g p.1 p.2)) k F = (mapModify m k f).map fun p => (p.1, g p.1 p.2) := by
  simp only [mapModify, List.map_map]
  apply List.map_congr_left
  intro e _
  simp only [Function.comp]
  split
  · rename_i hk; rw [eq_of_beq hk, h]
  · rfl

theorem mapIdx_map [LawfulBEq κ] (g : κ → α → β) (m : List (κ × α)) (k : κ) (site : String) :
    mapIdx (m.map fun p => (p.1, g p.1 p.2)) k site = (mapIdx m k site).map (g k) := by
  unfold mapIdx
  rw [List.find?_map]
  have : ((fun e : κ × β => e.1 == k) ∘ fun p : κ × α => (p.1, g p.1 p.2)) = fun p => p.1 == k := rfl
  rw [this]
  cases h : m.find? (fun e => e.1 == k) with
  | none => rfl
  | some e =>
    have hk : (e.1 == k) = true := List.find?_some (p := fun e : κ × α => e.1 == k) h
    rw [← eq_of_beq hk]; rfl

end
end Rs
end Rough
