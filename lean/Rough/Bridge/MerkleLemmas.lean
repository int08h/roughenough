import Rough.Bridge.Basic
import Rough.Lemmas.MerkleModel
/-
  Helper lemmas for Rough/Bridge/Merkle.lean: the checked vector accesses of the generated code against those of the
  model, and the three loops of `compute_root` and `get_paths` against `pushParents`, `rootLoop` and `pathsLoop`.  The
  loop bodies, the panic messages and the embedding of level vectors into the loop state are variables here, so that
  the terms of the generated code appear only where Bridge/Merkle.lean puts them in.
-/
namespace Rough
namespace Bridge
open Rough.Lemmas.Merkle (iterBody iterM rootLoop_succ pushParents_succ)

theorem map_ok {α β} (f : α → β) (a : α) : (Res.ok a).map f = .ok (f a) := Res.map_ok f a
theorem map_err {α β} (f : α → β) : (Res.err : Res α).map f = .err := Res.map_err f
theorem map_panic {α β} (f : α → β) (s : String) : (Res.panic s : Res α).map f = .panic s := Res.map_panic f s
theorem sim_err_err {α} : ((Res.err : Res α) ≃ᵣ Res.err) ↔ True := Res.sim_err_err

/-- what follows a read `v[i]` is compared knowing `l[i]? = some a`: the generated code often reads the same element
    again where the model reads it once, and those accesses are then evaluated by `Rs.idx_ok`,
    `Rs.setIdx_ok` -/
theorem idx_bind_sim {α β} (l : List α) (i : Nat) (s s' : String) {F G : α → Res β}
    (h : ∀ a, l[i]? = some a → F a ≃ᵣ G a) : (Rs.idx l i s).bind F ≃ᵣ (Merkle.idx l i s').bind G := by
  unfold Rs.idx Merkle.idx
  cases h0 : l[i]? with
  | none => exact .panic _ _
  | some a => exact h a h0

theorem modify_sim {β : Type} (ls : List (List Bytes)) (i : Nat) (f : List Bytes → List Bytes) (s1 s2 s : String)
    {F G : List (List Bytes) → Res β} (h : ∀ l', F l' ≃ᵣ G l') :
    ((Rs.idx ls i s1).bind fun cur => (Rs.setIdx ls i (f cur) s2).bind F) ≃ᵣ
      (Merkle.modifyLevel ls i f s).bind G := by
  unfold Merkle.modifyLevel
  cases h0 : ls[i]? with
  | none => rw [Rs.idx, h0]; exact .panic _ _
  | some cur =>
    rw [Rs.idx_ok h0, Res.bind_ok, Rs.setIdx_ok h0]
    exact h _

theorem inner_loop_sim {σ : Type} (c : MerkleCfg) (emb : List (List Bytes) → σ) (level : Nat)
    (f : Nat → σ → Res (Rs.Step σ))
    (hf : ∀ i ls, f i (emb ls) ≃ᵣ (Merkle.pushParents c ls level i 1).map (fun t' => Rs.Step.next (emb t'))) :
    ∀ (k i : Nat) (ls : List (List Bytes)),
      Rs.forList (List.range' i k) (emb ls) f ≃ᵣ (Merkle.pushParents c ls level i k).map emb := by
  intro k
  induction k with
  | zero => intro i ls; exact .ok rfl
  | succ k ih =>
    intro i ls
    rw [List.range'_succ, Rs.forList_cons_bind, pushParents_succ]
    exact (hf i ls).bind_map_map fun ls' _ => ih _ _

/-- the left side is the body of the generated `while node_count > 1` loop once the level vector `ls1` has its next
    level, with `fi` for the body of the inner loop -/
theorem iter_sim {σ : Type} (c : MerkleCfg) (emb : List (List Bytes) → σ) (lv : Nat)
    (fi : Nat → σ → Res (Rs.Step σ))
    (hfi : ∀ i ls, fi i (emb ls) ≃ᵣ (Merkle.pushParents c ls (lv + 1) i 1).map (fun t' => Rs.Step.next (emb t')))
    (ls1 : List (List Bytes)) (nc : Nat) (s3 s4 : String) :
    (if nc % 2 ≠ 0 then
        (Rs.idx ls1 lv s3).bind fun cur => (Rs.setIdx ls1 lv (cur ++ [zeros c.N]) s4).bind fun l' =>
          (Rs.forList (List.range ((nc + 1) / 2)) (emb l') fi).bind fun s1 =>
            Res.ok (Rs.Step.next (s1, lv + 1, (nc + 1) / 2))
      else
        (Rs.forList (List.range (nc / 2)) (emb ls1) fi).bind fun s1 => Res.ok (Rs.Step.next (s1, lv + 1, nc / 2))) ≃ᵣ
      (iterBody c ls1 lv nc).map (fun p => Rs.Step.next (emb p.1, lv + 1, p.2)) := by
  unfold iterBody
  have tail : ∀ ls n,
      ((Rs.forList (List.range n) (emb ls) fi).bind fun s1 => Res.ok (Rs.Step.next (s1, lv + 1, n))) ≃ᵣ
        ((Merkle.pushParents c ls (lv + 1) 0 n).bind fun ls' => Res.ok (ls', n)).map
          (fun p => Rs.Step.next (emb p.1, lv + 1, p.2)) := by
    intro ls n
    rw [List.range_eq_range']
    exact (inner_loop_sim c emb (lv + 1) fi hfi n 0 ls).bind_map_map fun _ _ => .ok rfl
  split
  · rw [Res.bind_assoc, Res.map_bind]
    exact modify_sim _ _ _ _ _ _ fun l' => tail l' _
  · exact tail ls1 _

theorem root_while {σ : Type} (c : MerkleCfg) (emb : List (List Bytes) → σ)
    (cnd : σ × Nat × Nat → Res Bool) (f : σ × Nat × Nat → Res (Rs.Step (σ × Nat × Nat)))
    (hc : ∀ s, cnd s = .ok (decide (s.2.2 > 1)))
    (hf : ∀ ls lv nc, f (emb ls, lv, nc) ≃ᵣ
      (iterM c ls lv nc).map (fun p => Rs.Step.next (emb p.1, lv + 1, p.2))) :
    ∀ (fuel : Nat) (ls : List (List Bytes)) (lv nc : Nat),
      (Rs.whileFuel fuel (emb ls, lv, nc) cnd f).map (fun s => (s.1, s.2.1)) ≃ᵣ
        (Merkle.rootLoop c fuel ls lv nc).map (fun p => (emb p.1, p.2)) := by
  intro fuel
  induction fuel with
  | zero =>
    intro ls lv nc
    rw [Rs.whileFuel_zero_bind, hc, Merkle.rootLoop]
    by_cases h : nc > 1 <;> simp [h]
  | succ n ih =>
    intro ls lv nc
    rw [Rs.whileFuel_succ_bind, hc, Res.bind_ok]
    by_cases h : nc > 1
    · rw [rootLoop_succ _ _ _ _ _ h, decide_eq_true h, if_pos rfl, Res.map_bind, Res.map_bind]
      exact (hf ls lv nc).bind_map fun p _ => ih _ _ _
    · rw [Merkle.rootLoop]; simp [h]

theorem paths_while (levels : List (List Bytes)) (s1 s2 s3 s4 : String)
    (c : Nat × Bytes × Nat → Res Bool) (f : Nat × Bytes × Nat → Res (Rs.Step (Nat × Bytes × Nat)))
    (hc : ∀ i acc lv, c (i, acc, lv) = (Rs.idx levels lv s1).bind fun l => .ok (decide (¬ (l.isEmpty = true))))
    (hf : ∀ i acc lv, f (i, acc, lv) =
      (if i % 2 = 0 then Res.ok (i + 1) else Rs.sub i 1 s2).bind fun sib =>
      (Rs.idx levels lv s3).bind fun l => (Rs.idx l sib s4).bind fun s =>
        .ok (.next (i / 2, acc ++ s, lv + 1))) :
    ∀ (fuel lv i : Nat) (acc : Bytes), levels.length + 1 ≤ lv + fuel →
      (Rs.whileFuel fuel (i, acc, lv) c f).map (fun s => (s.2.1, s.2.2)) ≃ᵣ
        (Merkle.pathsLoop levels fuel lv i).map (fun r => (acc ++ r.1, r.2)) := by
  intro fuel
  induction fuel with
  | zero =>
    intro lv i acc hl
    -- out of fuel means out of levels: both sides panic on the index
    have hn : levels[lv]? = none := List.getElem?_eq_none (by omega)
    rw [Rs.whileFuel_zero_bind, hc, Rs.idx, hn, Merkle.pathsLoop]
    exact .panic _ _
  | succ n ih =>
    intro lv i acc hl
    rw [Rs.whileFuel_succ_bind, hc, hf, Merkle.pathsLoop, Res.bind_assoc, Res.map_bind, Res.map_bind]
    refine idx_bind_sim _ _ _ _ fun l h0 => ?_
    -- the generated code reads `levels[level]` in the condition and again in the body, the model once
    rw [Res.bind_ok, Rs.idx_ok h0]
    cases l.isEmpty with
    | true => exact .ok (by simp)
    | false =>
      simp only [Bool.false_eq_true, not_false_eq_true, decide_true, if_true, if_false, Res.bind_assoc, Res.map_bind,
        Res.bind_ok]
      refine Res.Sim.bind ?_ fun sib => idx_bind_sim _ _ _ _ fun sb _ => ?_
      · split
        · exact .refl _
        · exact Rs.sub_sim _ _ _ _
      -- the generated loop accumulates the path, the model prepends to what the recursion returns
      rw [Res.bind_eq_map (f := fun r => (acc ++ sb ++ r.1, r.2)) _ fun r => by rw [Res.map_ok, List.append_assoc]]
      exact ih (lv + 1) (i / 2) (acc ++ sb) (by omega)

end Bridge
end Rough
