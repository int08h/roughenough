import Rough.Bridge.ServerLoop
import Rough.Bridge.Stats
import Rough.Lemmas.LoopArms
/-
  Helper lemmas for Rough/Bridge/ProcessEvents.lean: the exact result of `handle_health_check` and `send_client_stats`
  on an arbitrary generated server state, the per-batch inputs (`passEnv`) for which the model's `serviceSocket` is
  `serviceSpec`, small facts about recorders.
-/
namespace Rough
namespace Bridge
namespace PEAux
open Rough.Stats Rough.EventLoop
open Rough.Lemmas.Loop (recordAll_append)

/-- the statistics event of an accepted connection -/
def hcEvent (c : Gen.Conn) : Event := ⟨Kind.healthCheck, c.addr, 0⟩

/-- the listener after one iteration of the accept loop that finds the connection `c` at the head of the queue:
    accepted, sent the response, shut down -/
def hcOne (t : Gen.Tcp) (c : Gen.Conn) : Gen.Tcp :=
  (Gen.Tcp.shutdown (Gen.Tcp.writeAll { t with pending := t.pending.tail, cur := c, log := t.log ++ [.accepted c.addr] }
    (Rs.strBytes Gen.HTTP_RESPONSE)).2).2

/-- the server after that iteration -/
def hcStep (g : Gen.Server) (c : Gen.Conn) : Gen.Server :=
  { g with tcp := hcOne g.tcp c, stats_recorder := g.stats_recorder ++ [hcEvent c] }

/-- the listener after the accept loop has drained the queue `l` -/
def hcDrain (l : List Gen.Conn) (t : Gen.Tcp) : Gen.Tcp := l.foldl hcOne t

theorem foldl_hcStep (l : List Gen.Conn) (g : Gen.Server) :
    l.foldl hcStep g = { g with tcp := hcDrain l g.tcp, stats_recorder := g.stats_recorder ++ l.map hcEvent } := by
  induction l generalizing g with
  | nil => simp only [hcDrain, List.foldl_nil, List.map_nil, List.append_nil]
  | cons c l ih =>
    rw [List.foldl_cons, ih]
    simp only [hcStep, hcDrain, List.foldl_cons, List.map_cons, List.append_assoc, List.singleton_append]

theorem writeAll_snd (t : Gen.Tcp) (b : Bytes) : (Gen.Tcp.writeAll t b).2 =
    { t with log := t.log ++ [if t.cur.writeOk then .wrote t.cur.addr b else .writeFailed t.cur.addr] } := by
  unfold Gen.Tcp.writeAll
  cases t.cur.writeOk <;> simp

theorem shutdown_snd (t : Gen.Tcp) : (Gen.Tcp.shutdown t).2 =
    { t with log := t.log ++ [if t.cur.shutOk then .shutdown t.cur.addr else .shutdownFailed t.cur.addr] } := by
  unfold Gen.Tcp.shutdown
  cases t.cur.shutOk <;> simp

theorem writeAll_fst (t : Gen.Tcp) (b : Bytes) : (Gen.Tcp.writeAll t b).1 = .ok () ∨ (Gen.Tcp.writeAll t b).1 = .err := by
  unfold Gen.Tcp.writeAll
  cases t.cur.writeOk <;> simp

theorem shutdown_fst (t : Gen.Tcp) : (Gen.Tcp.shutdown t).1 = .ok () ∨ (Gen.Tcp.shutdown t).1 = .err := by
  unfold Gen.Tcp.shutdown
  cases t.cur.shutOk <;> simp

theorem hcOne_eq (t : Gen.Tcp) (c : Gen.Conn) : hcOne t c =
    { pending := t.pending.tail, hardErr := t.hardErr, cur := c,
      log := t.log ++ [.accepted c.addr,
        if c.writeOk then .wrote c.addr (Rs.strBytes Gen.HTTP_RESPONSE) else .writeFailed c.addr,
        if c.shutOk then .shutdown c.addr else .shutdownFailed c.addr] } := by
  simp [hcOne, writeAll_snd, shutdown_snd]

theorem hcOne_pending (t : Gen.Tcp) (c : Gen.Conn) : (hcOne t c).pending = t.pending.tail := by
  rw [hcOne_eq]

theorem unwrapO_unit (o : Option Unit) (site : String) (h : o.isSome) : Rs.unwrapO o site = .ok () := by
  cases o with
  | none => cases h
  | some u => rfl

/-- `handle_health_check` on any server state with a configured listener: the accept loop is a
    `while let`-style drain of the accept queue (`Rs.whileFuel_drain`), one `hcStep` per pending connection -/
theorem handle_health_check_exact (S : SigScheme) (H : Bytes → Bytes) (LOG : Nat) (g : Gen.Server)
    (hl : g.health_listener.isSome) :
    Gen.Server.handle_health_check S H LOG g =
      .ok { g with tcp := hcDrain g.tcp.pending g.tcp, stats_recorder := g.stats_recorder ++ g.tcp.pending.map hcEvent } := by
  unfold Gen.Server.handle_health_check
  simp only [Res.pure_eq, Res.bind_eq, unwrapO_unit _ _ hl, Res.bind_ok]
  rw [← foldl_hcStep]
  -- the relation of the drain: the model state is the generated state itself, the queue its pending connections
  refine Rs.Post.eq ((Rs.whileFuel_drain (fun g q t => g = t ∧ g.tcp.pending = q) hcStep (fun _ => rfl) ?hnil ?hcons
    g.tcp.pending g g _ (Nat.lt_succ_self _) ⟨rfl, rfl⟩).bind fun _ h => .ok h.1)
  case hnil =>
    rintro g _ ⟨rfl, hp⟩
    refine ⟨_, ?_, g, rfl, rfl, hp⟩
    simp only [Gen.Tcp.accept, hp]
    rfl
  case hcons =>
    rintro g c rest _ ⟨rfl, hp⟩
    refine ⟨_, ?_, hcStep g c, rfl, rfl, by rw [hcStep, hcOne_pending, hp]; rfl⟩
    simp only [Gen.Tcp.accept, hp]
    have e : hcOne g.tcp c = (Gen.Tcp.shutdown (Gen.Tcp.writeAll
        { pending := rest, hardErr := g.tcp.hardErr, cur := c, log := g.tcp.log ++ [Gen.TcpEvent.accepted c.addr] }
        (Rs.strBytes Gen.HTTP_RESPONSE)).2).2 := by rw [hcOne, hp]; rfl
    rw [hcStep, e]
    generalize ({ pending := rest, hardErr := g.tcp.hardErr, cur := c, log := g.tcp.log ++ [Gen.TcpEvent.accepted c.addr] } : Gen.Tcp) = tq
    -- whether the write and the shutdown succeed or fail, the code goes on
    rcases writeAll_fst tq (Rs.strBytes Gen.HTTP_RESPONSE) with hw | hw <;>
      rcases shutdown_fst (tq.writeAll (Rs.strBytes Gen.HTTP_RESPONSE)).snd with hs | hs <;>
      simp only [hw, hs] <;> rfl

theorem handle_health_check_none (S : SigScheme) (H : Bytes → Bytes) (LOG : Nat) (g : Gen.Server)
    (hl : g.health_listener = none) : ∃ p, Gen.Server.handle_health_check S H LOG g = .panic p := by
  unfold Gen.Server.handle_health_check
  simp only [Res.pure_eq, Res.bind_eq, hl, Rs.unwrapO_none, Res.bind_panic]
  exact ⟨_, rfl⟩

theorem hcDrain_pending : ∀ (l : List Gen.Conn) (t : Gen.Tcp), t.pending = l → (hcDrain l t).pending = []
  | [], _, h => h
  | c :: rest, t, h => hcDrain_pending rest (hcOne t c) (by rw [hcOne_pending, h]; rfl)

/-- for any `p` that picks the accepted addresses: the one in `handle_health_check_total` is an anonymous `match` -/
theorem hcDrain_accepted (p : Gen.TcpEvent → Option Nat) (hacc : ∀ a, p (.accepted a) = some a)
    (hw : ∀ a b, p (.wrote a b) = none) (hwf : ∀ a, p (.writeFailed a) = none)
    (hs : ∀ a, p (.shutdown a) = none) (hsf : ∀ a, p (.shutdownFailed a) = none) :
    ∀ (l : List Gen.Conn) (t : Gen.Tcp), (hcDrain l t).log.filterMap p = t.log.filterMap p ++ l.map (·.addr)
  | [], t => by simp [hcDrain]
  | c :: rest, t => by
    rw [hcDrain, List.foldl_cons, ← hcDrain, hcDrain_accepted p hacc hw hwf hs hsf rest, hcOne_eq]
    cases c.writeOk <;> cases c.shutOk <;> simp [List.filterMap_append, hacc, hw, hwf, hs, hsf]

theorem hcDrain_log_ok : ∀ (l : List Gen.Conn) (t : Gen.Tcp), (∀ c ∈ l, c.writeOk = true ∧ c.shutOk = true) →
    (hcDrain l t).log = t.log ++ (l.map (·.addr)).flatMap fun a =>
      [Gen.TcpEvent.accepted a, .wrote a (Rs.strBytes Gen.HTTP_RESPONSE), .shutdown a]
  | [], t, _ => by simp [hcDrain]
  | c :: rest, t, h => by
    have hc := h c (List.mem_cons_self ..)
    rw [hcDrain, List.foldl_cons, ← hcDrain, hcDrain_log_ok rest _ (fun c' hc' => h c' (List.mem_cons_of_mem _ hc')),
      hcOne_eq]
    simp [hc.1, hc.2]

theorem recordAll_perClient (ev : List Event) : ∀ (s : PerClient),
    (Recorder.perClient s).recordAll ev = .perClient (PerClient.run s ev) := by
  induction ev with
  | nil => intro s; rfl
  | cons e rest ih => intro s; exact ih (s.record e)

theorem recordAll_aggregated (ev : List Event) : ∀ (s : Aggregated),
    (Recorder.aggregated s).recordAll ev = .aggregated (Aggregated.run s ev) := by
  induction ev with
  | nil => intro s; rfl
  | cons e rest ih => intro s; exact ih (s.record e)

/-- `stats_recorder.iter().map(|(_, s)| *s).collect()` -/
def clientsOf (kind : Option Nat) (ev : List Event) : List Gen.ClientStats :=
  List.map (fun (_, s) => s) (Gen.statsIter kind ev)

theorem send_client_stats_exact (S : SigScheme) (H : Bytes → Bytes) (LOG : Nat) (g : Gen.Server) :
    Gen.Server.send_client_stats S H LOG g =
      .ok { g with
        stats_queue := if (clientsOf g.recorder_kind g.stats_recorder).length > 0
          then g.stats_queue ++ [clientsOf g.recorder_kind g.stats_recorder] else g.stats_queue,
        stats_recorder := if (clientsOf g.recorder_kind g.stats_recorder).length > 0 then [] else g.stats_recorder,
        stats_pub_timer := g.stats_pub_timer ++ [g.stats_pub_freq] } := by
  unfold Gen.Server.send_client_stats Gen.Server.thread_name_fn
  simp only [Res.pure_eq, Res.bind_eq]
  have e : List.map (fun (x : Nat × Gen.ClientStats) => match x with | (_, s) => s) (Gen.statsIter g.recorder_kind g.stats_recorder)
      = clientsOf g.recorder_kind g.stats_recorder := rfl
  simp only [e]
  by_cases h : (clientsOf g.recorder_kind g.stats_recorder).length > 0 <;> by_cases hl : LOG ≥ 4 <;>
    simp [h, hl]

/-! ### the model's `serviceSocket` for the per-batch inputs the generated code takes from its environment -/

/-- the server at the start of a batch: both responders reset -/
def resetSrv (s : Server) : Server := { s with ietf := s.ietf.reset, classic := s.classic.reset }

/-- the number of IETF requests a `collect` result queued (0 when it failed: irrelevant then) -/
def nIetf : Res (Server × List Event) → Nat
  | .ok y => y.1.ietf.requests.length
  | _ => 0

/-- the inputs of the next batch: the clock readings `batchSpec` uses and all pending fault-injection decisions -/
def pass0 (E : Env) (s : Server) (sock : Gen.Sock) (gI gC : List Grease) : PassIn :=
  { nowIetf := ((sock.clock sock.n).secs, (sock.clock sock.n).nanos),
    nowClassic :=
      ((sock.clock (sock.n + nIetf (Server.collect E (resetSrv s) (toDatagrams (sock.inq.take s.batchSize))))).secs,
       (sock.clock (sock.n + nIetf (Server.collect E (resetSrv s) (toDatagrams (sock.inq.take s.batchSize))))).nanos),
    greaseIetf := gI, greaseClassic := gC }

/-- The inputs of batch `i` of a `service_socket` call that starts from `s`, `sock`, `gI`, `gC`. After a batch that does
    not return the model reads no further inputs; the fallback is an environment reading all the same, so that every
    input is one (`passEnv_prov`). -/
def passEnv (E : Env) (debug : Bool) : Nat → Server → Gen.Sock → List Grease → List Grease → PassIn
  | 0, s, sock, gI, gC => pass0 E s sock gI gC
  | i + 1, s, sock, gI, gC =>
    match batchSpec E debug s sock gI gC with
    | .ok y => passEnv E debug i y.1 (sockAfter s sock y.2.1) (gI.drop y.1.ietf.requests.length)
        (gC.drop y.1.classic.requests.length)
    | _ => passEnv E debug i s sock gI gC

theorem passEnv_prov (E : Env) (debug : Bool) : ∀ (i : Nat) (s : Server) (sock : Gen.Sock) (gI gC : List Grease),
    (passEnv E debug i s sock gI gC).arrivals = [] ∧
    (∃ k, (passEnv E debug i s sock gI gC).nowIetf = ((sock.clock k).secs, (sock.clock k).nanos)) ∧
    (∃ k, (passEnv E debug i s sock gI gC).nowClassic = ((sock.clock k).secs, (sock.clock k).nanos)) ∧
    (∃ n, (passEnv E debug i s sock gI gC).greaseIetf = gI.drop n) ∧
    (∃ n, (passEnv E debug i s sock gI gC).greaseClassic = gC.drop n) := by
  intro i
  induction i with
  | zero => exact fun s sock gI gC => ⟨rfl, ⟨_, rfl⟩, ⟨_, rfl⟩, ⟨0, rfl⟩, ⟨0, rfl⟩⟩
  | succ i ih =>
    intro s sock gI gC
    unfold passEnv
    split
    · rename_i y _
      -- the socket after the batch has the same clock; the decisions left are suffixes of suffixes
      obtain ⟨a, b, c, ⟨n1, d⟩, ⟨n2, e⟩⟩ := ih y.1 (sockAfter s sock y.2.1)
        (gI.drop y.1.ietf.requests.length) (gC.drop y.1.classic.requests.length)
      exact ⟨a, b, c, ⟨y.1.ietf.requests.length + n1, by rw [d, List.drop_drop]⟩,
        ⟨y.1.classic.requests.length + n2, by rw [e, List.drop_drop]⟩⟩
    · exact ih s sock gI gC

theorem pass0_arrivals (E : Env) (s : Server) (sock : Gen.Sock) (gI gC : List Grease) :
    (pass0 E s sock gI gC).arrivals = [] := rfl

theorem toDatagrams_take (q : List (Bytes × Addr)) (n : Nat) : toDatagrams (q.take n) = (toDatagrams q).take n := by
  simp [toDatagrams, List.map_take]

theorem toDatagrams_drop (q : List (Bytes × Addr)) (n : Nat) : toDatagrams (q.drop n) = (toDatagrams q).drop n := by
  simp [toDatagrams, List.map_drop]

theorem toDatagrams_length (q : List (Bytes × Addr)) : (toDatagrams q).length = q.length := by
  simp [toDatagrams]

theorem pass_unfold (E : Env) (debug : Bool) (s : Server) (p : Server.Pass) :
    Server.pass E debug s p = (Server.collect E (resetSrv s) (p.chunk.take s.batchSize)).bind fun y =>
      (y.1.ietf.sendResponses E debug p.nowIetf p.greaseIetf).bind fun yI =>
      (y.1.classic.sendResponses E debug p.nowClassic p.greaseClassic).bind fun yC =>
      .ok ({ y.1 with ietf := yI.1, classic := yC.1 }, yI.2.1 ++ yC.2.1, y.2 ++ yI.2.2 ++ yC.2.2) := rfl

theorem pass_eq (E : Env) (debug : Bool) (s : Server) (sock : Gen.Sock) (gI gC : List Grease) (st : Loop)
    (hs : st.srv = s) (hq : st.sockQ = toDatagrams sock.inq) :
    Server.pass E debug st.srv (passOf st (pass0 E s sock gI gC)) = batchSpec E debug s sock gI gC := by
  subst hs
  have hchunk : (passOf st (pass0 E st.srv sock gI gC)).chunk.take st.srv.batchSize =
      toDatagrams (sock.inq.take st.srv.batchSize) := by
    simp only [passOf, pass0, List.append_nil, hq, toDatagrams_take, List.take_take, Nat.min_self]
  rw [batchSpec_eq, pass_unfold, hchunk]
  -- when collecting the chunk returns `y`, `nIetf` is the count `batchSpec` uses for the second clock reading
  refine Res.bind_congr_ok fun y hy => ?_
  simp only [passOf, pass0, hy, nIetf]

/-- the model loop state after a `service_socket` call whose `serviceSpec` result is `y` -/
def stAfter (st : Loop)
    (y : Server × Bool × List Sent × List Event × List (Bytes × Addr) × List Grease × List Grease) : Loop :=
  { st with srv := y.1, backlog := y.2.1, sockQ := toDatagrams y.2.2.2.2.1, recd := st.recd.recordAll y.2.2.2.1 }

theorem svc_model (E : Env) (debug : Bool) (M : Nat) (s : Server) (sock : Gen.Sock) (gI gC : List Grease)
    (st : Loop) (hs : st.srv = s) (hq : st.sockQ = toDatagrams sock.inq) :
    Res.Rel (fun z y => z.1 = stAfter st y ∧ z.2.sent = y.2.2.1 ∧ z.2.events = y.2.2.2.1 ∧ z.2.hcAnswered = [])
      (serviceSocket E debug M st (fun i => passEnv E debug i s sock gI gC)) (serviceSpec E debug M s sock gI gC) := by
  induction M generalizing s sock gI gC st with
  | zero =>
    subst hs
    exact .ok ⟨by simp [stAfter, hq, Recorder.recordAll], rfl, rfl, rfl⟩
  | succ M ih =>
    unfold serviceSocket serviceSpec
    have h0 : passEnv E debug 0 s sock gI gC = pass0 E s sock gI gC := rfl
    simp only [h0, pass_eq E debug s sock gI gC st hs hq]
    -- both sides start with the same `batchSpec`
    refine (Res.Rel.refl _).strengthen.bind fun y _ ⟨hb, _, e⟩ => ?_
    subst e hs
    have hins : (fun i => passEnv E debug (i + 1) st.srv sock gI gC) =
        fun i => passEnv E debug i y.1 (sockAfter st.srv sock y.2.1) (gI.drop y.1.ietf.requests.length)
          (gC.drop y.1.classic.requests.length) := by
      funext i
      simp only [passEnv, hb]
    have hlen : (passOf st (pass0 E st.srv sock gI gC)).chunk.length = min st.srv.batchSize sock.inq.length := by
      simp only [passOf, pass0_arrivals, List.append_nil, hq, List.length_take, toDatagrams_length]
    by_cases hshort : sock.inq.length < st.srv.batchSize
    · have hshort' : (passOf st (pass0 E st.srv sock gI gC)).chunk.length < st.srv.batchSize := by omega
      simp only [hshort, hshort', if_true]
      exact .ok ⟨by simp [stAfter, pass0_arrivals, hq, toDatagrams_drop], rfl, rfl, rfl⟩
    · have hshort' : ¬ (passOf st (pass0 E st.srv sock gI gC)).chunk.length < st.srv.batchSize := by omega
      simp only [hshort, hshort', if_false, hins]
      refine (ih y.1 (sockAfter st.srv sock y.2.1) _ _ _ rfl
        (by simp only [pass0_arrivals, List.append_nil, hq, sockAfter, toDatagrams_drop])).bind
        fun z w ⟨e1, e2, e3, e4⟩ => ?_
      exact .ok (by simp [Out.append, e1, e2, e3, e4, stAfter, recordAll_append, pass0_arrivals])

theorem Out.append_empty (a : Out) : Out.append a {} = a := Lemmas.Loop.Out.append_empty a

end PEAux
end Bridge
end Rough
