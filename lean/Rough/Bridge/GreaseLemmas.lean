import Rough.Bridge.Message
import Rough.Gen.ServerExt
/-
  The decision queue `Gen.GreaseQ` (Rough/Gen/ServerExt.lean), through which the generated `send_responses` uses the
  fault injector, against the model's `applyGrease`.  That the queue stands for grease.rs is Rough/Bridge/Grease.lean.
-/
namespace Rough
namespace Bridge

theorem addErrors_eq (p : List Grease) (g : Grease) (m : Msg) :
    Gen.GreaseQ.addErrors ⟨p, g⟩ (toGen m) = (applyGrease g m).map toGen := by
  have e : (⟨(toGen m).tags.zip (toGen m).values⟩ : Msg) = m := (Lemmas.msg_eq_zip m).symm
  simp only [Gen.GreaseQ.addErrors, e]
  cases applyGrease g m <;> rfl

/-- `should_add_error()` followed by `add_errors` (or not) is the model's `applyGrease` of the next decision -/
theorem grease_step_eq (gs : List Grease) (cur : Grease) (m : Msg) :
    (if (Gen.GreaseQ.draw ⟨gs, cur⟩).1 = true then (Gen.GreaseQ.draw ⟨gs, cur⟩).2.addErrors (toGen m)
      else Res.ok (toGen m)) = (applyGrease (gs.headD Grease.none) m).map toGen := by
  have e2 : (Gen.GreaseQ.draw ⟨gs, cur⟩).2 = ⟨gs.tail, gs.headD Grease.none⟩ := rfl
  have e1 : (Gen.GreaseQ.draw ⟨gs, cur⟩).1 = !(gs.headD Grease.none == Grease.none) := by
    simp only [Gen.GreaseQ.draw]; cases gs.headD Grease.none <;> rfl
  rw [e2, e1, addErrors_eq]
  cases gs.headD Grease.none <;> rfl

end Bridge
end Rough
