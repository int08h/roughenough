import Rough.Bridge.Stats
import Rough.Generated.Src.Reporter
/-
  Bridge theorems for src/stats/reporter.rs: `Reporter::receive_client_stats` generated from the Rust source drains the
  queue of published snapshots and merges every entry into the reporter's map exactly as the model's
  `Stats.reporterReceive` does (about which C17's merge / pipeline theorems are proved) — for every queue content and
  every map without duplicate addresses (the hash-map invariant, which the function preserves).
-/
namespace Rough
namespace Bridge
open Rough.Stats

/-- a published snapshot (`Vec<ClientStats>`) of model entries -/
def toGenSnap (snap : List (Addr × Counters)) : List Gen.ClientStats := snap.map fun p => toGenClient p.1 p.2

/-- the reporter's map of model entries -/
def toGenRepMap (acc : List (Addr × Counters)) : List (Nat × Gen.ClientStats) := acc.map fun p => (p.1, toGenClient p.1 p.2)

namespace ReporterAux
open StatsAux Rough.Lemmas.Stats

/-- merging one snapshot into the map (the inner fold of `reporterReceive`) -/
def mergeSnap (acc snap : List (Addr × Counters)) : List (Addr × Counters) :=
  snap.foldl (fun acc (p : Addr × Counters) => PerClient.upsert acc p.1 (fun c => c.merge p.2)) acc

theorem reporterReceive_nil (acc : List (Addr × Counters)) : reporterReceive acc [] = acc := rfl

theorem mergeSnap_nodup (snap acc : List (Addr × Counters)) (h : (acc.map (·.1)).Nodup) :
    ((mergeSnap acc snap).map (·.1)).Nodup := by
  induction snap generalizing acc with
  | nil => exact h
  | cons p rest ih => exact ih _ (upsert_nodup acc p.1 _ h)

theorem ip_addr_toGenClient (a : Addr) (c : Counters) : (toGenClient a c).ip_addr = a := rfl

theorem idx_ensure (l : List (Addr × Counters)) (a : Addr) (site : String) :
    Rs.mapIdx (Rs.mapEnsure l a Counters.zero) a site = .ok ((lk l a).getD Counters.zero) := by
  induction l with
  | nil => simp [Rs.mapIdx, Rs.mapEnsure, lk]
  | cons p rest ih =>
    rw [Rs.mapEnsure_cons, lk_cons]
    by_cases h : p.1 = a
    · rw [if_pos (beq_iff_eq.mpr h), if_pos h]
      simp [Rs.mapIdx, h]
    · rw [if_neg (fun e => h (eq_of_beq e)), if_neg h, ← ih]
      simp [Rs.mapIdx, h]

theorem upsert_const (l : List (Addr × Counters)) (a : Addr) (f : Counters → Counters) :
    PerClient.upsert l a (fun _ => f ((lk l a).getD Counters.zero)) = PerClient.upsert l a f := by
  induction l with
  | nil => rfl
  | cons p rest ih =>
    obtain ⟨b, c⟩ := p
    rw [lk_cons, PerClient.upsert, PerClient.upsert]
    by_cases h : a = b
    · subst h; simp
    · rw [if_neg h, if_neg h, if_neg (fun e => h e.symm), ih]

/-- the generated reporter state, whatever its `num_processed` counter (which only feeds a log line), stands for the
    queue `q` and the map `acc`, in which no address occurs twice (the hash-map invariant) -/
def RepRel (s : Gen.Reporter × Nat) (q : List (List (Addr × Counters))) (acc : List (Addr × Counters)) : Prop :=
  s.1 = ⟨q.map toGenSnap, toGenRepMap acc⟩ ∧ (acc.map (·.1)).Nodup

/-- one client record of a snapshot: `entry().or_insert_with()`, read the record back, merge, overwrite; `K` is what
    the loop body does with the new map -/
theorem merge_entry {β : Type} (t : List (Addr × Counters)) (a : Addr) (d : Counters) (site : String)
    (ht : (t.map (·.1)).Nodup) (K : List (Nat × Gen.ClientStats) → Res β) :
    (Rs.mapIdx (Rs.mapEnsure (toGenRepMap t) a (toGenClient a Counters.zero)) a site).bind (fun ent =>
      (Gen.ClientStats.merge ent (toGenClient a d)).bind fun m =>
        K (Rs.mapModify (Rs.mapEnsure (toGenRepMap t) a (toGenClient a Counters.zero)) a fun _ => m)) =
      K (toGenRepMap (PerClient.upsert t a fun c => c.merge d)) := by
  unfold toGenRepMap
  rw [Rs.mapEnsure_map, Rs.mapIdx_map, idx_ensure, Res.map_ok, Res.bind_ok, client_stats_merge_eq, Res.bind_ok,
    Rs.mapModify_map toGenClient _ a _ (fun _ => ((lk t a).getD Counters.zero).merge d) (fun _ => rfl),
    ← upsert_eq _ _ _ ht, upsert_const t a fun c => c.merge d]

end ReporterAux
open ReporterAux

theorem reporterReceive_nodup (acc : List (Addr × Counters)) (q : List (List (Addr × Counters)))
    (h : (acc.map (·.1)).Nodup) : ((reporterReceive acc q).map (·.1)).Nodup := by
  induction q generalizing acc with
  | nil => exact h
  | cons snap rest ih => exact ih _ (mergeSnap_nodup snap acc h)

theorem receive_client_stats_eq (acc : List (Addr × Counters)) (q : List (List (Addr × Counters)))
    (h : (acc.map (·.1)).Nodup) :
    Gen.Reporter.receive_client_stats ⟨q.map toGenSnap, toGenRepMap acc⟩ =
      .ok ⟨[], toGenRepMap (reporterReceive acc q)⟩ := by
  unfold Gen.Reporter.receive_client_stats
  simp only [Res.bind_eq, Res.pure_eq]
  refine Rs.Post.eq ((Rs.whileFuel_drain RepRel mergeSnap (fun s => rfl) ?_ ?_ q _ acc _ (by simp) ⟨rfl, h⟩).bind ?_)
  · rintro ⟨r, n⟩ t ⟨rfl, ht⟩
    exact ⟨_, rfl, _, rfl, rfl, ht⟩
  · -- a snapshot: the inner `for` loop folds its records into the map
    rintro ⟨r, n⟩ snap q t ⟨rfl, ht⟩
    simp only [List.map_cons, List.head?_cons, List.tail_cons]
    refine (Rs.forList_foldl (fun (s : Gen.Reporter × Nat) t => RepRel s q t)
      (fun p : Addr × Counters => toGenClient p.1 p.2)
      (fun acc p => PerClient.upsert acc p.1 (fun c => c.merge p.2)) ?_ snap _ t ⟨rfl, ht⟩).bind
      fun s' hR => .ok ⟨_, rfl, hR⟩
    rintro ⟨a, d⟩ ⟨r, n⟩ t ⟨rfl, ht⟩
    exact ⟨_, merge_entry (β := Rs.Step (Gen.Reporter × Nat)) t a d _ ht fun cs =>
      .ok (.next (⟨q.map toGenSnap, cs⟩, n + 1)), _, rfl, rfl, Lemmas.Stats.upsert_nodup t a _ ht⟩
  · rintro ⟨r, n⟩ ⟨hR, _⟩
    simp only at hR
    subst hR
    -- the `if num_processed > 0` after the loop only logs
    exact ⟨_, by split <;> rfl, rfl⟩

end Bridge
end Rough
