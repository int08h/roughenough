import Rough.Bridge.Keys
/-
  Bridge theorems for the constructors `OnlineKey::new` (src/key/online.rs) and `Responder::new` (src/responder.rs)
  generated from the Rust source, against the key-material part of the model's `Server.new` (about which C10's
  certificate theorems are proved).  Environment: the online seed that `MsgSigner::new` draws from the system random
  number generator is the parameter `onl`; the fault injector's future decisions are the parameter `gq`.
-/
namespace Rough
namespace Bridge

theorem online_key_new_eq (onl : Bytes) :
    Gen.OnlineKey.new onl = (Signer.fromSeed onl).map fun s => (⟨s, Version.supportedWire⟩ : Gen.OnlineKey) := by
  simp only [Gen.OnlineKey.new, Res.pure_eq, Res.bind_eq]
  cases Signer.fromSeed onl <;> rfl

/-- `Responder::new` hands the long-term key object back, its signer buffer emptied, for the next responder.
    `make_cert` never fails, so only the length check of the online seed can. -/
theorem responder_new_sim (S : SigScheme) (H : Bytes → Bytes) (onl : Bytes) (gq : List Grease) (v : Version)
    (cfg : Config.Cfg) (k : LongTermKey) :
    Gen.Responder.new S H onl gq v cfg (toGenLtk k) ≃ᵣ
      (Signer.fromSeed onl).map fun s =>
        (toGenResponder ⟨v, s, encode (Lemmas.Keys.certOf S k.signer v onl), [], Merkle.new⟩ ⟨gq, Grease.none⟩,
          toGenLtk { k with signer := ⟨k.signer.seed, []⟩ }) := by
  simp only [Gen.Responder.new, Res.pure_eq, Res.bind_eq, online_key_new_eq]
  unfold Signer.fromSeed
  split
  · simp only [Res.map_ok, Res.bind_ok_s]
    rw [(make_cert_sim S H k v ⟨⟨onl, []⟩, Version.supportedWire⟩).eq_ok_of_map (Lemmas.Keys.makeCert_eq S k v onl)]
    simp only [encode_eq, Rs.unwrapR_ok, Res.bind_ok_s, ltk_public_key_eq, new_eq, Rs.withCapacity]
    exact .ok rfl
  · exact .panic _ _

/-- the two responders of a server, created in the order `Server::new` creates them (IETF first, then classic, with the
    same long-term key object) are the model's `Server.new` responders -/
theorem server_responders_sim (E : Env) (seed onlI onlC : Bytes) (b : Nat) (gqI gqC : List Grease) (cfg : Config.Cfg) :
    ((Gen.LongTermKey.new E.S E.H seed).bind fun ltk =>
      (Gen.Responder.new E.S E.H onlI gqI Version.ietf cfg ltk).bind fun r1 =>
        (Gen.Responder.new E.S E.H onlC gqC Version.google cfg r1.2).bind fun r2 =>
          Res.ok (r1.1, r2.1, r2.2))
      ≃ᵣ (Server.new E seed onlI onlC b).map fun s =>
          (toGenResponder s.ietf ⟨gqI, Grease.none⟩, toGenResponder s.classic ⟨gqC, Grease.none⟩,
            (⟨⟨seed, []⟩, s.srv⟩ : Gen.LongTermKey)) := by
  simp only [Server.new, Res.map_bind]
  refine (ltk_new_sim E.S E.H seed).bind_map fun ltk hk => ?_
  obtain ⟨-, srv, -, rfl⟩ := Lemmas.Keys.ltkNew_eq_ok.mp hk
  refine (responder_new_sim E.S E.H onlI gqI .ietf cfg _).bind_map fun sI _ => ?_
  rw [Lemmas.Keys.makeCert_eq, Res.bind_ok]
  refine (responder_new_sim E.S E.H onlC gqC .google cfg _).bind_map fun sC _ => ?_
  rw [Lemmas.Keys.makeCert_eq, Res.bind_ok]
  exact .ok rfl

end Bridge
end Rough
