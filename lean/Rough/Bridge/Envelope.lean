import Rough.Bridge.Basic
import Rough.Generated.Src.Envelope
import Rough.Lemmas.Envelope
/-
  Bridge theorem for src/kms/envelope.rs `decrypt_seed`: the parser of the envelope blob (length fields, wrapped key,
  nonce, ciphertext) and the unwrap / AEAD-open sequence generated from the Rust source equal the model `Envelope.decrypt`
  about which C14 (round trip, tamper / wrong key ⇒ AEAD forgery or malleable provider, never a panic) is proved —
  for every AEAD `A`, provider `K` and blob.
-/
namespace Rough
namespace Bridge
open Rough.Lemmas

theorem strBytes_AD : strBytes Gen.AD = Envelope.AD := by
  have : Gen.AD = String.ofList ['r', 'o', 'u', 'g', 'h', 'e', 'n', 'o', 'u', 'g', 'h'] := by
    unfold Gen.AD; decide
  rw [this, strBytes_ofList]
  decide

theorem gen_min : Gen.MIN_PAYLOAD_SIZE = 64 := by decide

theorem model_min : Envelope.MIN_PAYLOAD_SIZE = 64 := rfl

theorem vec_zero_filled_eq (n : Nat) :
    Gen.vec_zero_filled n = .ok (List.map (fun _ => 0) (List.range n)) := rfl

theorem readToEnd_fst (b : Bytes) (p : Nat) : (Rs.Cursor.readToEnd ⟨b, p⟩).fst = b.drop p := rfl

theorem tryIntoArray_eq (l : Bytes) (n : Nat) :
    Rs.tryIntoArray l n = if l.length = n then .ok l else .err := rfl

/-- the generated code fails at the same checks as the model, in the same order, and has no panic site on the way -/
theorem decrypt_seed_eq (A : Envelope.Aead) (K : Envelope.Kms) (blob : Bytes) :
    Gen.EnvelopeEncryption.decrypt_seed A K blob = Envelope.decrypt K A blob := by
  unfold Gen.EnvelopeEncryption.decrypt_seed Envelope.decrypt Envelope.parse
  simp only [Res.bind_eq, Res.pure_eq, gen_min, model_min, strBytes_AD]
  by_cases h64 : blob.length < 64
  · simp only [if_pos h64, Res.bind_err]
  have h0 : ¬ (blob.drop 0).length < 2 := by simp only [List.drop_zero]; omega
  have h2 : ¬ (blob.drop 2).length < 2 := by simp only [List.length_drop]; omega
  simp only [if_neg h64, Rs.Cursor.new, Rs.Cursor.readU16_ok blob 0 h0, Res.bind_ok, List.drop_zero, Nat.zero_add,
    Rs.Cursor.readU16_ok blob 2 h2, Gen.NONCE_LEN_BYTES]
  by_cases hc : rd16 (blob.drop 2) ≠ 12 ∨ rd16 blob > blob.length
  · simp only [hc, if_true, Res.bind_err]
  simp only [hc, if_false, vec_zero_filled_eq, Res.bind_ok, List.length_map, List.length_range, Rs.rep,
    List.length_replicate, Nat.reduceAdd]
  by_cases h4 : (blob.drop 4).length < rd16 blob
  · simp only [Rs.Cursor.readExact_err blob 4 _ h4, h4, if_true, Res.bind_err]
  simp only [Rs.Cursor.readExact_ok blob 4 _ h4, h4, if_false, Res.bind_ok, List.drop_drop]
  by_cases h12 : (blob.drop (4 + rd16 blob)).length < 12
  · simp only [Rs.Cursor.readExact_err blob _ 12 h12, h12, if_true, Res.bind_err]
  simp only [Rs.Cursor.readExact_ok blob _ 12 h12, h12, if_false, Res.bind_ok, readToEnd_fst, List.nil_append]
  cases K.unwrap (List.take (rd16 blob) (List.drop 4 blob)) with
  | none => rfl
  | some dek =>
    simp only [Rs.ofOpt_some, Res.bind_ok, tryIntoArray_eq]
    by_cases hl : dek.length = 32
    · simp only [hl, if_true, Res.bind_ok, ne_eq, not_true_eq_false, if_false]
      cases A.openF dek (List.take 12 (List.drop (4 + rd16 blob) blob)) Envelope.AD
        (List.drop (4 + rd16 blob + 12) blob) <;> rfl
    · simp only [hl, if_false, Res.bind_err, ne_eq, not_false_eq_true, if_true]

theorem decrypt_seed_sim (A : Envelope.Aead) (K : Envelope.Kms) (blob : Bytes) :
    Gen.EnvelopeEncryption.decrypt_seed A K blob ≃ᵣ Envelope.decrypt K A blob :=
  .of_eq (decrypt_seed_eq A K blob)

theorem decrypt_seed_no_panic (A : Envelope.Aead) (K : Envelope.Kms) (blob : Bytes) :
    (Gen.EnvelopeEncryption.decrypt_seed A K blob).isPanic = false := by
  rw [decrypt_seed_eq]
  exact Lemmas.Envelope.decrypt_not_panic K A blob

end Bridge
end Rough
