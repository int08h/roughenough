import Rough.Bridge.Basic
import Rough.Generated.Src.EnvConfig
import Rough.Generated.Src.FileConfig
import Rough.Lemmas.Config
/-
  Bridge theorems for the two configuration loaders, src/config/environment.rs (`EnvironmentConfig::new`) and
  src/config/file.rs (`FileConfig::new`), generated from the Rust source, against the model's `Config.envSet` /
  `Config.fileSet` / `Config.loadFile` (about which C16's theorems — effective = written, out-of-range refused, sources
  agree, unknown / missing refused — are proved).  "Refused" in the model (`none`) is an `Err` OR a panic of the loader
  (`expect`, `unwrap`, `unwrap_or_else(panic!)`), so the comparison is on `Res.toOption`.
  Environment (Rough/Gen/ConfigExt.lean): the process environment is a list of (name, value); a YAML scalar is its source
  text, resolved by the model's `yamlInt` / `yamlStr` / `isFloat`; the number of CPUs is a parameter. The payload of a
  non-Plaintext `KmsProtection` (the key resource name, model field `kms`) is not kept by the generated code.
-/
namespace Rough

namespace Bridge
open Rough.Config Rough.Lemmas.Config

/-- the model configuration a generated `EnvironmentConfig` stands for (`kms` text erased) -/
def cfgOfEnv (g : Gen.EnvironmentConfig) : Cfg :=
  { port := g.port, interface := g.interface, seed := g.seed, batchSize := g.batch_size,
    statusInterval := g.status_interval.secs, kmsPlain := g.kms_protection, kms := "", hcPort := g.health_check_port,
    clientStats := g.client_stats, persistDir := g.persist_dir, faultPct := g.fault_percentage, numWorkers := g.num_workers }

/-- the model configuration a generated `FileConfig` stands for (`kms` text erased) -/
def cfgOfFile (g : Gen.FileConfig) : Cfg :=
  { port := g.port, interface := g.interface, seed := g.seed, batchSize := g.batch_size,
    statusInterval := g.status_interval.secs, kmsPlain := g.kms_protection, kms := "", hcPort := g.health_check_port,
    clientStats := g.client_stats, persistDir := g.persist_dir, faultPct := g.fault_percentage, numWorkers := g.num_workers }

def eraseKms (c : Cfg) : Cfg := { c with kms := "" }

/-- the documented settings in the order `EnvironmentConfig::new` reads them, with their variables -/
def envKeys : List (String × String) :=
  [("port", "ROUGHENOUGH_PORT"), ("interface", "ROUGHENOUGH_INTERFACE"), ("seed", "ROUGHENOUGH_SEED"),
   ("batch_size", "ROUGHENOUGH_BATCH_SIZE"), ("status_interval", "ROUGHENOUGH_STATUS_INTERVAL"),
   ("kms_protection", "ROUGHENOUGH_KMS_PROTECTION"), ("health_check_port", "ROUGHENOUGH_HEALTH_CHECK_PORT"),
   ("client_stats", "ROUGHENOUGH_CLIENT_STATS"), ("fault_percentage", "ROUGHENOUGH_FAULT_PERCENTAGE"),
   ("num_workers", "ROUGHENOUGH_NUM_WORKERS"), ("persistence_directory", "ROUGHENOUGH_PERSISTENCE_DIRECTORY")]

/-- the settings present in a process environment, as (key, value) entries in that order -/
def entriesOfEnv (env : List (String × String)) : List (String × String) :=
  envKeys.filterMap fun kn => (env.find? fun kv => kv.1 == kn.2).map fun kv => (kn.1, kv.2)

/-- the model's environment loader without the harness's un-quoting of values -/
def loadEnvRaw (defaults : Cfg) (entries : List (String × String)) : Option Cfg :=
  entries.foldl (fun acc kv => acc.bind fun c => envSet c kv.1 kv.2) (some defaults)

namespace CfgAux

theorem loadEnvRaw_nil (c : Cfg) : loadEnvRaw c [] = some c := rfl

theorem loadEnvRaw_cons (c : Cfg) (e : String × String) (l : List (String × String)) :
    loadEnvRaw c (e :: l) = (envSet c e.1 e.2).bind fun c' => loadEnvRaw c' l :=
  foldl_bind_cons _ c e l

/-- the generated configuration `g` stands, through `f`, for the model's `c`, `kms` text aside -/
def CfgRel {γ : Type} (f : γ → Cfg) (g : γ) (c : Cfg) : Prop := f g = eraseKms c

/-- the same record update `u` applied to both sides of the relation.  For the updated generated record `g'` and model
    configuration `c'` this IS `CfgRel f g' c'` once `f`, `eraseKms` and the updates are unfolded, which is how it is used -/
theorem CfgRel.upd {γ : Type} {f : γ → Cfg} {g : γ} {c : Cfg} (h : CfgRel f g c) (u : Cfg → Cfg) :
    u (f g) = u (eraseKms c) :=
  congrArg u h

/-- outcome of the generated code against the model's: refused together, or related configurations -/
def CfgOut {γ : Type} (f : γ → Cfg) (r : Res γ) (o : Option Cfg) : Prop := r.toOption.map f = o.map eraseKms

theorem toOption_expect {α} (o : Option α) (s : String) : (Rs.unwrapR (Rs.ofOpt o) s).toOption = o :=
  (Rs.toOption_unwrapR _ _).trans (Rs.toOption_ofOpt o)

abbrev EG := Gen.EnvironmentConfig  -- the record the generated environment loader fills in

def envEntry (env : List (String × String)) (kn : String × String) : Option (String × String) :=
  (env.find? fun kv => kv.1 == kn.2).map fun kv => (kn.1, kv.2)

/-- the rest `K` of the loader reads the variables `keys` -/
def ETail (env : List (String × String)) (keys : List (String × String)) (K : EG → Res EG) : Prop :=
  ∀ g c, CfgRel cfgOfEnv g c → CfgOut cfgOfEnv (K g) (loadEnvRaw c (keys.filterMap (envEntry env)))

theorem ETail.parse {env keys K} (hK : ETail env keys K) {α} {r : Res α} {p : Option α} (hp : r.toOption = p)
    {ug : α → EG} {u : α → Cfg} (hu : ∀ x, CfgRel cfgOfEnv (ug x) (u x)) :
    CfgOut cfgOfEnv (r.bind fun x => K (ug x))
      ((p.map u).bind fun c' => loadEnvRaw c' (keys.filterMap (envEntry env))) := by
  subst hp
  cases r with
  | ok x => exact hK _ _ (hu x)
  | err => rfl
  | panic _ => rfl

/-- one `match env::var(NAME) { Ok(v) => .., Err(_) => () }` in front of the rest `K` of the loader -/
theorem ETail.key {env keys K} (hK : ETail env keys K) {k n : String} {g : EG} {c : Cfg} (h : CfgRel cfgOfEnv g c)
    {A C : String → Res EG}
    (hA : ∀ v, CfgOut cfgOfEnv (A v) ((envSet c k v).bind fun c' => loadEnvRaw c' (keys.filterMap (envEntry env)))) :
    CfgOut cfgOfEnv (match Gen.envVar env n with
      | .ok v => A v
      | .err => K g
      | .panic s => C s) (loadEnvRaw c (((k, n) :: keys).filterMap (envEntry env))) := by
  rw [List.filterMap_cons]
  unfold envEntry Gen.envVar
  cases env.find? (fun kv => kv.1 == n) with
  | none => exact hK g c h
  | some kv => rw [Option.map_some, loadEnvRaw_cons]; exact hA kv.2

/-- the variable of an integer key: `parse::<uN>().expect(..)`, the assignment, the rest -/
theorem ETail.int {env keys K} (hK : ETail env keys K) (k : IntKey) {n s : String} {ug : EG → Nat → EG}
    (hu : ∀ g c x, CfgRel cfgOfEnv g c → CfgRel cfgOfEnv (ug g x) (Cfg.setInt c k x)) {C : EG → String → Res EG} :
    ETail env ((k.name, n) :: keys) fun g =>
      match Gen.envVar env n with
      | .ok v => (Rs.unwrapR (Rs.ofOpt (parseUnsigned (bitsOf .env k) v)) s).bind fun x => K (ug g x)
      | .err => K g
      | .panic p => C g p := fun g c h => hK.key h fun v => by
  rw [envSet_int]
  exact hK.parse (toOption_expect _ _) fun x => hu g c x h

macro "erel_tac" h:ident : tactic => `(tactic| (
  rw [ERel_iff] at $h:ident ⊢
  obtain ⟨h1, h2, h3, h4, h5, h6, h7, h8, h9, h10, h11⟩ := $h:ident
  refine ⟨?_, ?_, ?_, ?_, ?_, ?_, ?_, ?_, ?_, ?_, ?_⟩ <;> first | assumption | rfl | simp only [Bool.decide_or]))

macro "env_tac" j:ident h:ident cst:ident p:term:max upd:term:max : tactic => `(tactic| (
  intro g c hgc
  refine env_step $p $upd hgc $h ?_ ?_ ?_
  · intro v
    simp only [envSet]
    first
    | (refine ⟨_, rfl, ?_⟩; erel_tac hgc)
    | (cases ($p v) <;> first
        | rfl
        | (refine ⟨_, rfl, ?_⟩; erel_tac hgc))
  · intro kv hkv
    simp only [$j:ident, Gen.envVar, $cst:ident, hkv]
    try (cases ($p kv.2) <;>
      simp only [Rs.unwrapR, Rs.ofOpt, Res.bind_eq, Res.bind_ok, Res.bind_panic, Res.toOption, Option.map_some,
        Option.map_none])
  · intro hnone
    simp only [$j:ident, Gen.envVar, $cst:ident, hnone]))

abbrev FG := Gen.FileConfig  -- the record the generated file loader fills in

/-- one entry of the file as the loader reads it: the key is the YAML string the key scalar resolves to -/
def fileStepR (c : Cfg) (kv : String × String) : Option Cfg := (yamlStr kv.1).bind fun k => fileSet c k kv.2

/-- one iteration of the generated loop against one step of the model -/
def FStep (r : Res (Rs.Step FG)) (o : Option Cfg) : Prop :=
  match o with
  | some c' => ∃ g', r = .ok (.next g') ∧ CfgRel cfgOfFile g' c'
  | none => ∀ s, r ≠ .ok s

theorem FStep.next {g : FG} {c : Cfg} (h : CfgRel cfgOfFile g c) : FStep (.ok (.next g)) (some c) := ⟨g, rfl, h⟩

theorem FStep.refuse {r : Res (Rs.Step FG)} (h : r.toOption = none) : FStep r none := by
  intro s hs; rw [hs] at h; cases h

theorem FStep.bind {α} {r : Res α} {p : Option α} (hp : r.toOption = p) {K : α → Res (Rs.Step FG)}
    {k : α → Option Cfg} (hK : ∀ x, FStep (K x) (k x)) : FStep (r.bind K) (p.bind k) := by
  subst hp
  cases r with
  | ok x => exact hK x
  | err => exact FStep.refuse rfl
  | panic _ => exact FStep.refuse rfl

theorem FStep.map {α} {r : Res α} {p : Option α} (hp : r.toOption = p) {ug : α → FG} {u : α → Cfg}
    (hu : ∀ x, CfgRel cfgOfFile (ug x) (u x)) : FStep (r.bind fun x => .ok (.next (ug x))) (p.map u) :=
  Option.map_eq_bind ▸ FStep.bind hp fun x => FStep.next (hu x)

/-- the arm of an integer key: `as_i64().unwrap()`, the checked narrowing, the assignment -/
theorem FStep.int (k : IntKey) {c : Cfg} (v s : String) {ug : Nat → FG}
    (hu : ∀ x, CfgRel cfgOfFile (ug x) (Cfg.setInt c k x)) :
    FStep ((Rs.unwrapO (Gen.Yaml.asI64 v) s).bind fun i =>
        (Rs.ofOpt (narrow (bitsOf .file k) i)).bind fun x => .ok (.next (ug x)))
      (fileSet c k.name v) := by
  rw [fileSet_int, Option.map_bind]
  exact FStep.bind (Rs.toOption_unwrapO _ _) fun i => FStep.map (Rs.toOption_ofOpt _) hu

theorem unwrapR_ok {α} (a : α) (site : String) : Rs.unwrapR (Res.ok a) site = .ok a := Rs.unwrapR_ok a site
theorem unwrapO_some {α} (a : α) (site : String) : Rs.unwrapO (some a) site = .ok a := Rs.unwrapO_some a site
theorem unwrapO_none {α} (site : String) : Rs.unwrapO (none : Option α) site = .panic site := Rs.unwrapO_none site
theorem unwrapR_err {α} (site : String) : Rs.unwrapR (Res.err : Res α) site = .panic site := Rs.unwrapR_err site

/-- the model's loop with the keys as the loader reads them -/
def loadFileR (c : Cfg) (doc : List (String × String)) : Option Cfg :=
  doc.foldl (fun acc kv => acc.bind fun c => fileStepR c kv) (some c)

theorem file_loop {body : String × String → FG → Res (Rs.Step FG)}
    (hbody : ∀ kv g c, CfgRel cfgOfFile g c → FStep (body kv g) (fileStepR c kv)) :
    ∀ doc g c, CfgRel cfgOfFile g c → CfgOut cfgOfFile (Rs.forList doc g body) (loadFileR c doc) := by
  intro doc
  induction doc with
  | nil =>
    intro g c h
    exact congrArg some h
  | cons kv l ih =>
    intro g c h
    have hb := hbody kv g c h
    rw [Rs.forList_cons, loadFileR, foldl_bind_cons]
    cases hs : fileStepR c kv with
    | none =>
      rw [hs] at hb
      cases hr : body kv g with
      | ok s => exact absurd hr (hb s)
      | err => rfl
      | panic p => rfl
    | some c' =>
      rw [hs] at hb
      obtain ⟨g', hg', hrel⟩ := hb
      rw [hg']
      exact ih g' c' hrel

macro "frel_tac" h:ident : tactic => `(tactic| (
  rw [FRel_iff] at $h:ident ⊢
  obtain ⟨h1, h2, h3, h4, h5, h6, h7, h8, h9, h10, h11⟩ := $h:ident
  refine ⟨?_, ?_, ?_, ?_, ?_, ?_, ?_, ?_, ?_, ?_, ?_⟩ <;> first | assumption | rfl | simp only [Bool.decide_or]))

/-- the text of a `seed:` value: a Real's source text, or the string the scalar resolves to -/
theorem toOption_seedText (v s : String) :
    (if Gen.Yaml.isReal v = true then Res.ok v else Rs.unwrapO (Gen.Yaml.asStr v) s).toOption =
      if (yamlInt v).isNone ∧ isFloat v.toList then some v else yamlStr v := by
  simp only [Gen.Yaml.isReal, Bool.and_eq_true]
  split
  · rfl
  · exact Rs.toOption_unwrapO _ _

theorem file_new_general (doc : List (String × String)) (ncpu : Nat) (path : String) :
    CfgOut cfgOfFile (Gen.FileConfig.new [doc] ncpu path) (loadFileR { numWorkers := ncpu } doc) := by
  unfold Gen.FileConfig.new
  simp only [Rs.unwrapR_ok, Rs.unwrapO_some, Rs.idx_ok (List.getElem?_cons_zero ..), Res.bind_eq, Res.bind_ok,
    List.length_singleton, ne_eq, not_true_eq_false, if_false, Res.pure_eq, Res.bind_ok_right]
  refine file_loop ?_ doc _ _ rfl
  intro (k, v) g c h
  refine FStep.bind (Rs.toOption_unwrapO _ _) fun k' => ?_
  split
  · -- "port"
    exact FStep.int .port v _ fun x => h.upd fun c => { c with port := x }
  · -- "interface"
    exact FStep.map (Rs.toOption_unwrapO _ _) fun x => h.upd fun c => { c with interface := x }
  · -- "batch_size"
    exact FStep.int .batchSize v _ fun x => h.upd fun c => { c with batchSize := x }
  · -- "seed"
    simp only [fileSet]
    rw [Option.map_bind]
    exact FStep.bind (toOption_seedText v _) fun t =>
      FStep.map (toOption_expect _ _) fun x => h.upd fun c => { c with seed := x }
  · -- "status_interval"
    exact FStep.int .statusInterval v _ fun x => h.upd fun c => { c with statusInterval := x }
  · -- "kms_protection"
    simp only [fileSet]
    rw [Option.map_bind]
    refine FStep.bind (Rs.toOption_unwrapO _ _) fun t => ?_
    -- the generated code keeps only whether the protection is Plaintext
    show FStep _ ((parseKms t).map _)
    cases parseKms t with
    | none => exact FStep.refuse rfl
    | some b => exact FStep.next (h.upd fun c => { c with kmsPlain := b.1 })
  · -- "health_check_port"
    exact FStep.int .hcPort v _ fun x => h.upd fun c => { c with hcPort := some x }
  · -- "client_stats"
    refine FStep.map (Rs.toOption_unwrapO _ _) fun x => ?_
    rw [CfgRel, Bool.decide_or]
    exact h.upd fun c => { c with clientStats := _ }
  · -- "persistence_directory"
    simp only [Option.map_id']
    exact FStep.next (h.upd fun c => { c with persistDir := _ })
  · -- "fault_percentage"
    exact FStep.int .faultPct v _ fun x => h.upd fun c => { c with faultPct := x }
  · -- "num_workers"
    exact FStep.int .numWorkers v _ fun x => h.upd fun c => { c with numWorkers := x }
  · -- any other key
    rw [fileSet_unknown c k' v (by simp_all [knownKeys])]
    exact FStep.refuse rfl

theorem loadFileR_eq_resolved (doc : List (String × String)) (rk : String → String)
    (hkeys : ∀ kv ∈ doc, yamlStr kv.1 = some (rk kv.1)) (acc : Option Cfg) :
    doc.foldl (fun acc kv => acc.bind fun c => fileStepR c kv) acc =
      (doc.map fun kv => (rk kv.1, kv.2)).foldl (fun acc kv => acc.bind fun c => fileSet c kv.1 kv.2) acc := by
  rw [List.foldl_map]
  exact foldl_bind_congr (fun kv hkv c => by simp only [fileStepR, hkeys kv hkv, Option.bind_some]) _

end CfgAux
open CfgAux

/-- `EnvironmentConfig::new`: for EVERY process environment, start-up is refused (Err or panic) exactly when the model
    refuses the settings present, and otherwise every field is the model's -/
theorem env_config_new_eq (env : List (String × String)) (ncpu : Nat) :
    (Gen.EnvironmentConfig.new env ncpu).toOption.map cfgOfEnv =
      (loadEnvRaw { numWorkers := ncpu } (entriesOfEnv env)).map eraseKms := by
  unfold Gen.EnvironmentConfig.new
  -- the join points of the do-block, last first: `jN` is the loader from the N-th variable on
  extract_lets j12 j11 j10 j9 j8 j7 j6 j5 j4 j3 j2
  have h12 : ETail env [] (j12 ()) := fun g c h => congrArg some h
  have h11 : ETail env (envKeys.drop 10) (j11 ()) := fun g c h => h12.key h fun v => by
    simp only [envSet]
    exact h12 _ _ (h.upd fun c => { c with persistDir := some v })
  -- `by exact`: which field the generated code assigns is known only once the join point is unfolded
  have h10 : ETail env (envKeys.drop 9) (j10 ()) :=
    h11.int .numWorkers fun g c x h => by exact h.upd fun c => { c with numWorkers := x }
  have h9 : ETail env (envKeys.drop 8) (j9 ()) :=
    h10.int .faultPct fun g c x h => by exact h.upd fun c => { c with faultPct := x }
  have h8 : ETail env (envKeys.drop 7) (j8 ()) := fun g c h => h9.key h fun v => by
    simp only [envSet]
    refine h9 _ _ ?_
    rw [CfgRel, Bool.decide_or]
    exact h.upd fun c => { c with clientStats := _ }
  have h7 : ETail env (envKeys.drop 6) (j7 ()) :=
    h8.int .hcPort fun g c x h => by exact h.upd fun c => { c with hcPort := some x }
  have h6 : ETail env (envKeys.drop 5) (j6 ()) := fun g c h => h7.key h fun v => by
    simp only [envSet]
    cases parseKms v with
    | none => rfl
    | some b => exact h7 _ _ (h.upd fun c => { c with kmsPlain := b.1 })
  have h5 : ETail env (envKeys.drop 4) (j5 ()) :=
    h6.int .statusInterval fun g c x h => by exact h.upd fun c => { c with statusInterval := x }
  have h4 : ETail env (envKeys.drop 3) (j4 ()) :=
    h5.int .batchSize fun g c x h => by exact h.upd fun c => { c with batchSize := x }
  have h3 : ETail env (envKeys.drop 2) (j3 ()) := fun g c h => h4.key h fun v => by
    simp only [envSet]
    exact h4.parse (toOption_expect _ _) fun x => h.upd fun c => { c with seed := x }
  have h2 : ETail env (envKeys.drop 1) (j2 ()) := fun g c h => h3.key h fun v => by
    simp only [envSet]
    exact h3 _ _ (h.upd fun c => { c with interface := v })
  simp -zeta -zetaHave only [Rs.unwrapR_ok, Res.bind_eq, Res.bind_ok]
  extract_lets g0
  have h : CfgRel cfgOfEnv g0 { numWorkers := ncpu } := rfl
  refine h2.key (k := "port") h fun v => ?_
  simp only [envSet]
  exact h2.parse (toOption_expect _ _) fun x => h.upd fun c => { c with port := x }

theorem loadEnv_raw (defaults : Cfg) (entries : List (String × String)) (h : ∀ kv ∈ entries, unquote kv.2 = kv.2) :
    loadEnv defaults entries = loadEnvRaw defaults entries :=
  foldl_bind_congr (fun kv hkv c => by rw [h kv hkv]) _

/-- `FileConfig::new` on a file that is one YAML mapping with at least one entry: whenever every key scalar resolves to
    a YAML string (quoted or plain; `rk` names what it resolves to), it is refused exactly when the model's `loadFile`
    refuses the entries under their resolved keys, and otherwise every field is the model's — for EVERY list of entries,
    in any order, with repeated or unknown keys; so `"port": 1` behaves exactly as `port: 1` -/
theorem file_config_new_eq_resolved (doc : List (String × String)) (ncpu : Nat) (path : String) (hne : doc ≠ [])
    (rk : String → String) (hkeys : ∀ kv ∈ doc, yamlStr kv.1 = some (rk kv.1)) :
    (Gen.FileConfig.new [doc] ncpu path).toOption.map cfgOfFile =
      (loadFile { numWorkers := ncpu } (doc.map fun kv => (rk kv.1, kv.2))).map eraseKms := by
  rw [file_new_general doc ncpu path, loadFileR, loadFileR_eq_resolved doc rk hkeys, loadFile,
    if_neg (by simpa using hne)]

/-- `file_config_new_eq_resolved` with plain-word keys, which resolve to themselves -/
theorem file_config_new_eq (doc : List (String × String)) (ncpu : Nat) (path : String) (hne : doc ≠ [])
    (hkeys : ∀ kv ∈ doc, yamlStr kv.1 = some kv.1) :
    (Gen.FileConfig.new [doc] ncpu path).toOption.map cfgOfFile = (loadFile { numWorkers := ncpu } doc).map eraseKms := by
  have := file_config_new_eq_resolved doc ncpu path hne id hkeys
  rwa [show (doc.map fun kv => (id kv.1, kv.2)) = doc from List.map_id _] at this

/-- non-vacuity of `file_config_new_eq_resolved`: a quoted key -/
example : (Gen.FileConfig.new [[("\"port\"", "1")]] 1 "").toOption.map cfgOfFile =
    (loadFile { numWorkers := 1 } [("port", "1")]).map eraseKms :=
  file_config_new_eq_resolved [("\"port\"", "1")] 1 "" (by simp) (fun _ => "port")
    (by intro kv hkv; rw [List.mem_singleton.mp hkv]; decide)

/-- a file with no document, or with more than one, is refused with an error -/
theorem file_config_new_docs (docs : List (List (String × String))) (ncpu : Nat) (path : String) (h : docs.length ≠ 1) :
    Gen.FileConfig.new docs ncpu path = .err := by
  unfold Gen.FileConfig.new
  simp only [Rs.unwrapR_ok, Res.bind_eq, Res.bind_ok, h, ne_eq, not_false_eq_true, if_true, Res.bind_err]

/-- without a hypothesis on how the key scalars resolve (`hkeys`) the statement of `file_config_unknown_key` is false:
    the loader matches on the YAML string the key scalar RESOLVES to (`key.as_str()`), so the
    quoted key text `"port"` (with its quotes: not one of the eleven documented words) is read as `port` and accepted. -/
theorem file_config_unknown_key_counterexample :
    ∃ (doc : List (String × String)) (ncpu : Nat) (path k v : String),
      k ∉ ["port", "interface", "batch_size", "seed", "status_interval", "kms_protection", "health_check_port",
           "client_stats", "persistence_directory", "fault_percentage", "num_workers"] ∧
      (k, v) ∈ doc ∧ (Gen.FileConfig.new [doc] ncpu path).toOption ≠ none := by
  refine ⟨[("\"port\"", "1")], 1, "", "\"port\"", "1", by decide, List.mem_singleton.mpr rfl, ?_⟩
  have h := file_new_general [("\"port\"", "1")] 1 ""
  have hm : loadFileR { numWorkers := 1 } [("\"port\"", "1")] = some { port := 1, numWorkers := 1 } := by decide
  rw [CfgOut, hm] at h
  intro hnone
  rw [hnone] at h
  cases h

/-- the general form: a key scalar that does not resolve to a documented setting (it is no YAML string at all, or a
    string that is none of the eleven words) makes the result a refusal whatever else the file says — no assumption on
    the other entries -/
theorem file_config_unknown_key_resolved (doc : List (String × String)) (ncpu : Nat) (path k v : String)
    (hk : ∀ k', yamlStr k = some k' →
      k' ∉ ["port", "interface", "batch_size", "seed", "status_interval", "kms_protection", "health_check_port",
            "client_stats", "persistence_directory", "fault_percentage", "num_workers"])
    (hmem : (k, v) ∈ doc) :
    (Gen.FileConfig.new [doc] ncpu path).toOption = none := by
  have hnone : loadFileR { numWorkers := ncpu } doc = none := by
    refine foldl_bind_refused (f := fileStepR) hmem (fun c => ?_) _
    unfold fileStepR
    cases hy : yamlStr k with
    | none => rfl
    | some k' => exact fileSet_unknown c k' v fun hm => hk k' hy (by simp_all [knownKeys])
  have h := file_new_general doc ncpu path
  rw [CfgOut, hnone] at h
  exact Option.map_eq_none_iff.mp h

/-- a key that is not a documented setting makes the result a refusal whatever else the file says.
    `hkeys` (the key scalars are plain words, resolving to themselves — the hypothesis of `file_config_new_eq`) is
    needed: without it the claim is false, see `file_config_unknown_key_counterexample`. -/
theorem file_config_unknown_key (doc : List (String × String)) (ncpu : Nat) (path k v : String)
    (hk : k ∉ ["port", "interface", "batch_size", "seed", "status_interval", "kms_protection", "health_check_port",
               "client_stats", "persistence_directory", "fault_percentage", "num_workers"])
    (hmem : (k, v) ∈ doc) (hkeys : ∀ kv ∈ doc, yamlStr kv.1 = some kv.1) :
    (Gen.FileConfig.new [doc] ncpu path).toOption = none :=
  file_config_unknown_key_resolved doc ncpu path k v
    (fun _ hy => Option.some.inj ((hkeys (k, v) hmem).symm.trans hy) ▸ hk) hmem

end Bridge
end Rough
