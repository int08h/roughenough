import Rough.Bridge.Basic
import Rough.Generated.Src.Sign
/-
  Bridge theorems for src/sign.rs: the incremental signer and verifier generated from the Rust source (ed25519-dalek is
  the abstract scheme `S`; keys are their byte strings) are exactly the model's `Signer` / `Verifier`, about which C13
  (k-th signature = one-shot signature of the k-th message's chunks, no carry-over, verifier = one-shot verify) is proved.
  Other generated modules use MsgSigner / MsgVerifier through the translator's externs onto these model functions; the
  theorems below justify those externs.
-/
namespace Rough
namespace Bridge

def toGenSigner (s : Signer) : Gen.MsgSigner := ⟨s.seed, s.buf⟩
def toGenVerifier (v : Verifier) : Gen.MsgVerifier := ⟨v.pk, v.buf⟩

/-- `MsgSigner::from_seed`: a signer with an empty buffer for a 32-byte seed, a panic (`expect`) otherwise -/
theorem signer_from_seed_sim (S : SigScheme) (seed : Bytes) :
    Gen.MsgSigner.from_seed S seed ≃ᵣ (Signer.fromSeed seed).map toGenSigner := by
  unfold Gen.MsgSigner.from_seed Signer.fromSeed
  by_cases h : seed.length = 32
  · rw [Rs.tryIntoArray_ok h, if_pos h]; exact .ok rfl
  · rw [Rs.tryIntoArray_err h, if_neg h]; exact .panic _ _

theorem signer_update_eq (S : SigScheme) (s : Signer) (d : Bytes) :
    Gen.MsgSigner.update S (toGenSigner s) d = .ok (toGenSigner (s.update d)) := by
  rfl

theorem signer_sign_eq (S : SigScheme) (s : Signer) :
    Gen.MsgSigner.sign S (toGenSigner s) = .ok ((s.sign S).1, toGenSigner (s.sign S).2) := by
  rfl

theorem signer_public_key_bytes_eq (S : SigScheme) (s : Signer) :
    Gen.MsgSigner.public_key_bytes S (toGenSigner s) = .ok (s.publicKey S) := by
  rfl

/-- `MsgVerifier::new`: panics unless the key is 32 bytes and parses -/
theorem verifier_new_sim (S : SigScheme) (pk : Bytes) :
    Gen.MsgVerifier.new S pk ≃ᵣ (Verifier.new S pk).map toGenVerifier := by
  unfold Gen.MsgVerifier.new Verifier.new
  by_cases h : pk.length = 32
  · rw [Rs.tryIntoArray_ok h, if_neg (not_not_intro h)]
    simp only [Res.bind_eq, Rs.unwrapR_ok, Res.bind_ok]
    cases S.pkValid pk
    · exact .panic _ _
    · exact .ok rfl
  · rw [Rs.tryIntoArray_err h, if_pos h]; exact .panic _ _

theorem verifier_update_eq (S : SigScheme) (v : Verifier) (d : Bytes) :
    Gen.MsgVerifier.update S (toGenVerifier v) d = .ok (toGenVerifier (v.update d)) := by
  rfl

/-- `MsgVerifier::verify`: the scheme's verdict on (key, buffered bytes, signature); panics unless the signature is 64 bytes -/
theorem verifier_verify_sim (S : SigScheme) (v : Verifier) (sig : Bytes) :
    Gen.MsgVerifier.verify S (toGenVerifier v) sig ≃ᵣ v.verify S sig := by
  unfold Gen.MsgVerifier.verify Verifier.verify
  by_cases h : sig.length = 64
  · rw [Rs.tryIntoArray_ok h, if_neg (not_not_intro h)]
    simp only [Res.bind_eq, Rs.unwrapR_ok, Res.bind_ok]
    change Rs.isOk (if S.verify v.pk v.buf sig = true then _ else _) ≃ᵣ _
    cases S.verify v.pk v.buf sig <;> exact .ok rfl
  · rw [Rs.tryIntoArray_err h, if_pos h]; exact .panic _ _

end Bridge
end Rough
