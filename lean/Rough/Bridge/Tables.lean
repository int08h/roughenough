import Rough.Bridge.Basic
import Rough.Generated.Src.Tag
import Rough.Generated.Src.Version
import Rough.Lemmas.KeysBasic
/-
  Bridge theorems for the two table modules src/tag.rs and src/version.rs.  Other generated modules reach these tables
  through the translator's externs (`Tag.wire`, `Tag.ofWire`, `Tag.isNested`, `Version.wire`, `Version.delePrefix`,
  `Version.srepPrefix`, `Version.supportedWire`); the theorems below show that the functions generated from the Rust
  source are exactly those model tables, which is what justifies the externs.
-/
namespace Rough
namespace Bridge

theorem tag_wire_value_eq (t : Tag) : Gen.Tag.wire_value t = .ok (Tag.wire t) := by
  cases t <;> rfl

theorem tag_is_nested_eq (t : Tag) : Gen.Tag.is_nested t = .ok (Tag.isNested t) := by
  cases t <;> rfl

theorem tag_as_string_eq (t : Tag) : Gen.Tag.as_string t = .ok (Tag.name t) := by
  cases t <;> rfl

theorem tag_from_wire_eq (b : Bytes) : Gen.Tag.from_wire b = Rs.ofOpt (Tag.ofWire b) := by
  unfold Gen.Tag.from_wire
  simp only [pure]
  -- one goal per arm of the Rust `match`; in the last one `b` differs from all eighteen wire values.  This is the only
  -- place where the `match` is taken apart (generating its case analysis is slow), the rest follows from the equation.
  split
  case h_19 =>
    have : Tag.ofWire b = none := by
      refine List.find?_eq_none.mpr fun t _ h => ?_
      have := eq_of_beq h
      cases t <;> exact absurd this.symm (by assumption)
    rw [this]; rfl
  all_goals rfl

theorem tag_from_wire_wire (t : Tag) : Gen.Tag.from_wire (Tag.wire t) = .ok t := by
  rw [tag_from_wire_eq, Lemmas.ofWire_wire]; rfl

theorem tag_from_wire_ok (b : Bytes) (t : Tag) (h : Gen.Tag.from_wire b = .ok t) : b = Tag.wire t := by
  rw [tag_from_wire_eq] at h
  cases ho : Tag.ofWire b with
  | none => rw [ho] at h; cases h
  | some u => rw [ho] at h; cases h; exact (Lemmas.wire_of_ofWire ho).symm

theorem tag_from_wire_no_panic (b : Bytes) (s : String) : Gen.Tag.from_wire b ≠ .panic s := by
  rw [tag_from_wire_eq]
  cases Tag.ofWire b <;> exact nofun

theorem version_wire_bytes_eq (v : Version) : Gen.Version.wire_bytes v = .ok (Version.wire v) := by
  cases v <;> rfl

theorem version_dele_prefix_eq (v : Version) : Gen.Version.dele_prefix v = .ok (Version.delePrefix v) := by
  cases v
  · rw [Lemmas.Keys.delePrefix_google]; rfl
  · rw [Lemmas.Keys.delePrefix_ietf]; rfl

theorem version_sign_prefix_eq (v : Version) : Gen.Version.sign_prefix v = .ok (Version.srepPrefix v) := by
  rw [Lemmas.Keys.srepPrefix_eq]
  cases v <;> rfl

theorem version_supported_versions_wire_eq : Gen.Version.supported_versions_wire = .ok Version.supportedWire := by
  rfl

end Bridge
end Rough
