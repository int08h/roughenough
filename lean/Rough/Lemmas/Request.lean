import Rough.Lemmas.Codec
import Rough.Model.Request
import Rough.Spec.Roughtime
/-
  Lemmas behind properties C12 (IETF requests answered iff they name a supported version and this
  server) and the classification half of C07 (only well-formed 1024..1500-byte requests are
  accepted; classification never panics).

  Main result: `classify_eq` — the model classifier `nonceFromRequest` *equals* the image of the
  reference classification `Spec.RT.classifyRequest (protoOf d) srv d` under `expected`
  (must n ↦ ok (n, version of the protocol); may / no ↦ err).  `no_panic` and `only_wellformed` are read off it,
  the latter with `must_classic` / `must_draft13`, which say, as iffs, what a `must` of the reference classification means.
-/
namespace Rough.Lemmas.Request
open Rough Rough.Spec.RT Rough.Lemmas

/-- protocol ↦ implementation version (same equations as `Props.C12.versionOf`; Props/C12.lean imports this file,
    and the two are definitionally equal) -/
def versionOf : Proto → Version
  | .classic => .google
  | .draft13 => .ietf

/-- what the implementation does with a datagram of reference class `c` and protocol `p` -/
def expected (p : Proto) : ReqClass → Res (Bytes × Version)
  | .must n => .ok (n, versionOf p)
  | .may _ => .err
  | .no => .err

theorem decode_get_aligned {b : Bytes} {m : Msg} {t : Tag} {v : Bytes}
    (h : Spec.decode b = some m) (hg : m.get t = some v) : v.length % 4 = 0 :=
  decode_aligned h v (get_mem_values hg)

theorem versionList_aligned {v : Bytes} (h : v.length % 4 = 0) : versionList v = chunks 4 v := by
  unfold versionList
  rw [List.filter_eq_self]
  intro c hc
  simpa using (Lemmas.chunks_spec 4 (by decide) v h).1 c hc

theorem supportedVersion_eq {m : Msg} (ha : m.Aligned) :
    supportedVersion m = match m.get Tag.VER with
      | some v => if ((versionList v).take 4).contains ver13 then some Version.ietf else none
      | none => none := by
  unfold supportedVersion
  cases hv : m.get Tag.VER with
  | none => rfl
  | some v =>
    dsimp only
    rw [versionList_aligned (ha v (get_mem_values hv)), List.any_beq']
    rfl

theorem contains_of_take {l : List Bytes} {x : Bytes} {k : Nat} (h : (l.take k).contains x = true) :
    l.contains x = true :=
  List.contains_iff_mem.mpr (List.mem_of_mem_take (List.contains_iff_mem.mp h))

theorem unframe_eq {d : Bytes} (h12 : 12 ≤ d.length) (hm : d.take 8 = magic) :
    unframe d = if u32le (d.drop 8) = d.length - 12 then some (d.drop 12) else none := by
  unfold unframe
  rw [if_neg (Nat.not_lt.mpr h12), if_neg (not_not_intro hm)]
  exact ite_not ..

/-- the frame check of `nonce_from_rfc_request`, which does not look at the magic again, with what follows it as
    `K`: in range, neither slice nor the subtraction can panic -/
theorem rfcFrame_eq {α} {d : Bytes} (h12 : 12 ≤ d.length) (hlt : d.length < 4294967296) (s1 s2 s3 : String)
    (K : Bytes → Res α) :
    ((slice d 8 12 s1).bind fun lenBytes => (csub d.length 12 s2).bind fun actual =>
      if rd32 lenBytes ≠ actual % 4294967296 then .err else (slice d 12 d.length s3).bind K) =
    if u32le (d.drop 8) = d.length - 12 then K (d.drop 12) else .err := by
  have hrd : rd32 ((d.drop 8).take (12 - 8)) = u32le (d.drop 8) := congrArg leVal (List.take_take ..)
  rw [slice_ok (by omega) h12, Res.bind_ok, csub, if_pos h12, Res.bind_ok, hrd, Nat.mod_eq_of_lt (by omega),
    slice_ok h12 (Nat.le_refl _), Res.bind_ok, List.take_of_length_le (by rw [List.length_drop]; omega)]
  exact ite_not ..

theorem classic_eq (d srv : Bytes) (h1 : 1024 ≤ d.length) (h2 : d.length ≤ 1500)
    (hm : d.take 8 ≠ magic) :
    nonceFromClassic d = expected .classic (classifyRequest .classic srv d) := by
  unfold nonceFromClassic classifyRequest
  rw [if_neg (by omega), fromBytes_eq_decode d (by omega)]
  dsimp only
  rw [if_neg hm]
  cases hd : Spec.decode d with
  | none => rfl
  | some m =>
    rw [Res.ofOption, Res.bind_ok]
    dsimp only
    cases hn : m.get Tag.NONC with
    | none => rfl
    | some n =>
      dsimp only
      by_cases h64 : n.length = 64
      · rw [if_pos h64, if_pos h64]; rfl
      · rw [if_neg h64, if_neg h64]; rfl

theorem rfc_eq (d srv : Bytes) (h1 : 1024 ≤ d.length) (h2 : d.length ≤ 1500)
    (hm : d.take 8 = magic) :
    nonceFromRfc d srv = expected .draft13 (classifyRequest .draft13 srv d) := by
  unfold nonceFromRfc classifyRequest
  rw [rfcFrame_eq (by omega) (by omega), if_neg (show ¬ (d.length < 1024 ∨ d.length > 1500) by omega)]
  dsimp only
  rw [unframe_eq (by omega) hm]
  by_cases hl : u32le (d.drop 8) = d.length - 12
  case neg => rw [if_neg hl, if_neg hl]; rfl
  rw [if_pos hl, if_pos hl, fromBytes_eq_decode (d.drop 12) (by rw [List.length_drop]; omega)]
  dsimp only
  cases hd : Spec.decode (d.drop 12) with
  | none => rfl
  | some m =>
    rw [Res.ofOption, Res.bind_ok, supportedVersion_eq (decode_aligned hd)]
    dsimp only
    cases hv : m.get Tag.VER with
    | none => cases m.get Tag.NONC <;> rfl
    | some v =>
      dsimp only
      cases hn : m.get Tag.NONC with
      | none =>
        -- no NONC: wherever the model stops, it is with an error
        dsimp only
        by_cases h4 : ((versionList v).take 4).contains ver13 = true
        · rw [if_pos h4]; exact ite_self _
        · rw [if_neg h4]; rfl
      | some n =>
        dsimp only
        by_cases h4 : ((versionList v).take 4).contains ver13 = true
        case neg =>
          -- draft-13 not among the first four: the reference says `no` or `may`
          rw [if_neg h4, if_neg h4]
          simp only [apply_ite (expected Proto.draft13), expected.eq_2, expected.eq_3, ite_self]
        rw [if_pos h4, if_pos h4, if_neg (not_not_intro (contains_of_take h4))]
        dsimp only
        by_cases h32 : n.length = 32
        case neg => rw [if_neg h32, if_pos h32]; exact ite_self _
        rw [if_pos h32, if_neg (not_not_intro h32)]
        -- what is left is the SRV test, written with `!=` in the model and with `=` in the reference
        cases m.get Tag.SRV with
        | none => rfl
        | some s =>
          by_cases hss : s = srv
          · rw [if_neg (by simp [hss]), if_neg (by simp [hss])]; rfl
          · rw [if_pos (by simp [hss]), if_pos (by simp [hss])]; rfl

theorem protoOf_draft13 {d : Bytes} (hm : d.take 8 = magic) : protoOf d = .draft13 := if_pos hm

theorem protoOf_classic {d : Bytes} (hm : d.take 8 ≠ magic) : protoOf d = .classic := if_neg hm

theorem nonceFromRequest_eq (d srv : Bytes) :
    nonceFromRequest d srv = if d.length < 1024 ∨ d.length > 1500 then .err
      else if d.take 8 = magic then nonceFromRfc d srv else nonceFromClassic d := by
  unfold nonceFromRequest MIN_REQUEST_LENGTH MAX_REQUEST_LENGTH
  by_cases h1 : d.length < 1024
  · rw [if_pos h1, if_pos (.inl h1)]
  by_cases h2 : d.length > 1500
  · rw [if_neg h1, if_pos h2, if_pos (.inr h2)]
  rw [if_neg h1, if_neg h2, if_neg (not_or.mpr ⟨h1, h2⟩), slice_ok (Nat.zero_le _) (by omega), Res.bind_ok]
  by_cases hm : d.take 8 = magic
  · rw [if_pos hm]; exact if_pos (beq_iff_eq.mpr hm)
  · rw [if_neg hm]; exact if_neg (mt beq_iff_eq.mp hm)

theorem classify_eq (d srv : Bytes) :
    nonceFromRequest d srv = expected (protoOf d) (classifyRequest (protoOf d) srv d) := by
  rw [nonceFromRequest_eq]
  by_cases hb : d.length < 1024 ∨ d.length > 1500
  · rw [if_pos hb, show classifyRequest (protoOf d) srv d = .no from if_pos hb]; rfl
  rw [if_neg hb]
  by_cases hm : d.take 8 = magic
  · rw [if_pos hm, protoOf_draft13 hm]; exact rfc_eq d srv (by omega) (by omega) hm
  · rw [if_neg hm, protoOf_classic hm]; exact classic_eq d srv (by omega) (by omega) hm

theorem expected_ok {p : Proto} {c : ReqClass} {n : Bytes} {v : Version}
    (h : expected p c = .ok (n, v)) : c = .must n ∧ v = versionOf p := by
  cases c with
  | must n' => cases h; exact ⟨rfl, rfl⟩
  | may _ => cases h
  | no => cases h

/-- C07_classify_total -/
theorem no_panic (d srv : Bytes) (s : String) : nonceFromRequest d srv ≠ .panic s := by
  rw [classify_eq]
  cases classifyRequest (protoOf d) srv d <;> nofun

theorem no_ite_must {c : Prop} [Decidable c] {k : ReqClass} {n : Bytes}
    (h : (if c then ReqClass.no else k) = .must n) : ¬ c ∧ k = .must n :=
  (ite_eq_iff_of_ne (a := ReqClass.no) (g := .must n) nofun).mp h

theorem must_classic {srv d n : Bytes} :
    classifyRequest .classic srv d = .must n ↔
      ¬ (d.length < 1024 ∨ d.length > 1500) ∧ d.take 8 ≠ magic ∧
        ∃ m, Spec.decode d = some m ∧ m.get Tag.NONC = some n ∧ n.length = 64 := by
  constructor
  · intro h
    -- applies to `h : classifyRequest … = .must n` because unification unfolds `classifyRequest` to its outer `if`
    obtain ⟨hb, h⟩ := no_ite_must h
    obtain ⟨hm, h⟩ := no_ite_must h
    refine ⟨hb, hm, ?_⟩
    cases hd : Spec.decode d with
    | none => rw [hd] at h; cases h
    | some m =>
      rw [hd] at h; dsimp only at h
      cases hn : m.get Tag.NONC with
      | none => rw [hn] at h; cases h
      | some n' =>
        rw [hn] at h; dsimp only at h
        by_cases h64 : n'.length = 64
        · rw [if_pos h64] at h; cases h; exact ⟨m, rfl, hn, h64⟩
        · rw [if_neg h64] at h; cases h
  · rintro ⟨hb, hm, m, hd, hn, h64⟩
    unfold classifyRequest
    rw [if_neg hb]
    dsimp only
    rw [if_neg hm, hd]
    dsimp only
    rw [hn]
    exact if_pos h64

theorem must_draft13 {srv d n : Bytes} :
    classifyRequest .draft13 srv d = .must n ↔
      ¬ (d.length < 1024 ∨ d.length > 1500) ∧
        ∃ body m v, unframe d = some body ∧ Spec.decode body = some m ∧ m.get Tag.VER = some v ∧
          ((versionList v).take 4).contains ver13 = true ∧
          (m.get Tag.SRV = none ∨ m.get Tag.SRV = some srv) ∧
          m.get Tag.NONC = some n ∧ n.length = 32 := by
  constructor
  · intro h
    obtain ⟨hb, h⟩ := no_ite_must h
    refine ⟨hb, ?_⟩
    dsimp only at h
    cases hu : unframe d with
    | none => rw [hu] at h; cases h
    | some body =>
      rw [hu] at h; dsimp only at h
      cases hd : Spec.decode body with
      | none => rw [hd] at h; cases h
      | some m =>
        rw [hd] at h; dsimp only at h
        cases hv : m.get Tag.VER with
        | none => rw [hv] at h; cases h
        | some v =>
          cases hn : m.get Tag.NONC with
          | none => rw [hv, hn] at h; cases h
          | some n' =>
            rw [hv, hn] at h; dsimp only at h
            obtain ⟨-, h⟩ := no_ite_must h
            obtain ⟨c2, h⟩ := no_ite_must h
            obtain ⟨c3, h⟩ := no_ite_must h
            by_cases c4 : ((versionList v).take 4).contains ver13 = true
            case neg => rw [if_neg c4] at h; cases h
            rw [if_pos c4] at h; cases h
            refine ⟨body, m, v, rfl, hd, hv, c4, ?_, hn, Decidable.not_not.mp c2⟩
            cases hs : m.get Tag.SRV with
            | none => exact .inl rfl
            | some s => rw [hs] at c3; exact .inr (congrArg some (of_decide_eq_true (Decidable.not_not.mp c3)))
  · rintro ⟨hb, body, m, v, hu, hd, hv, c4, hs, hn, h32⟩
    unfold classifyRequest
    rw [if_neg hb]
    dsimp only
    rw [hu]
    dsimp only
    rw [hd]
    dsimp only
    rw [hv, hn]
    dsimp only
    rw [if_neg (not_not_intro (contains_of_take c4)), if_neg (not_not_intro h32), if_pos c4]
    rcases hs with hs | hs <;> rw [hs] <;> simp

/-- C07_only_wellformed -/
theorem only_wellformed (d srv nonce : Bytes) (v : Version)
    (h : nonceFromRequest d srv = .ok (nonce, v)) :
    1024 ≤ d.length ∧ d.length ≤ 1500 ∧ nonce.length = v.nonceLen ∧
    classifyRequest (protoOf d) srv d = .must nonce ∧ v = versionOf (protoOf d) := by
  rw [classify_eq] at h
  obtain ⟨hc, hv⟩ := expected_ok h
  have hb := (no_ite_must hc).1
  refine ⟨by omega, by omega, ?_, hc, hv⟩
  subst hv
  cases hp : protoOf d with
  | classic =>
    rw [hp] at hc
    obtain ⟨_, _, _, _, _, h64⟩ := must_classic.mp hc
    exact h64
  | draft13 =>
    rw [hp] at hc
    obtain ⟨_, _, _, _, _, _, _, _, _, _, h32⟩ := must_draft13.mp hc
    exact h32

end Rough.Lemmas.Request
