import Rough.Lemmas.LoopArms
/-
  One `process_events` call (safety, the liveness invariant, the recorder, the bound, progress), `n` idle calls in a row
  (`drains`) and the polling loop. Each is read off the run of arms of LoopArms.lean.
-/
namespace Rough.Lemmas.Loop
open Rough Rough.EventLoop Rough.LoopSpec Rough.ServerSpec Rough.Stats

theorem call_safe (E : Env) (hE : EnvOK E) (K : Keys) (debug : Bool) (st : Loop)
    (hs : Inv E K st.srv) (hb : st.srv.batchSize ≤ 2 ^ 32) (c : CallIn) (hi : InsSafe c.passes)
    (hh : Token.healthCheck ∈ c.events → st.hcListener = true) :
    ∃ st' out, processEvents E debug st c = .ok (st', out) ∧ Inv E K st'.srv ∧
      st'.srv.batchSize = st.srv.batchSize ∧ st'.hcListener = st.hcListener := by
  obtain ⟨st', o, h, hs'⟩ := runArms_safe E debug c.passes hE K hi (callToks st c) (lbSt0 st c) hs hb
    fun m => (mem_callToks.mp m).elim hh fun e => nomatch e.1
  have f := runArms_frame E debug _ h
  exact ⟨st', o, (processEvents_eq_arms E debug st c).trans h, hs', f.batchSize, f.hcListener⟩

theorem env_frame (st : Loop) (e : EnvStep) :
    (envStep st e).srv = st.srv ∧ (envStep st e).hcListener = st.hcListener := by
  cases e with
  | arrive d => exact ⟨rfl, rfl⟩
  | connect a =>
    simp only [envStep]
    split <;> exact ⟨rfl, rfl⟩
  | fire => exact ⟨rfl, rfl⟩

/-- when no arm of a call services the socket, nothing is queued and the flag is down: a queued datagram would have its
    readiness event or the flag (`Live`), and either puts EVT_MESSAGE among the tokens of the call -/
theorem idle_socket {st : Loop} {c : CallIn} (hl : Live st) (he : EventsOK st c) (hm : Token.message ∉ callToks st c) :
    st.sockQ = [] ∧ st.backlog = false :=
  ⟨Decidable.byContradiction fun hne => hm (mem_callToks.mpr ((hl.sock hne).imp he.2.1.mpr fun hb => ⟨rfl, hb⟩)),
    Bool.eq_false_iff.mpr fun hb => hm (mem_callToks.mpr (Or.inr ⟨rfl, hb⟩))⟩

theorem call_frame (E : Env) (debug : Bool) (st : Loop) (c : CallIn) (h : Live st) (he : EventsOK st c)
    (st' : Loop) (out : Out) (hr : processEvents E debug st c = .ok (st', out)) :
    st'.hcQ = [] ∧ out.hcAnswered = st.hcQ ∧ st'.hcEdge = false ∧ (st'.sockQ = [] ∨ st'.backlog = true) := by
  rw [processEvents_eq_arms] at hr
  have F := runArms_frame E debug _ hr
  have hnd := callToks_nodup (st := st) he.1
  have hhc : st'.hcQ = [] ∧ out.hcAnswered = st.hcQ := by
    by_cases hm : Token.healthCheck ∈ callToks st c
    · exact runArms_hc (st := lbSt0 st c) E debug c.passes hnd hm hr
    · -- no event, so no edge, so (liveness) nothing queued
      have hq : st.hcQ = [] := Decidable.byContradiction fun hne =>
        hm (mem_callToks.mpr (Or.inl (he.2.2.1.mpr (h.hc hne))))
      obtain ⟨a1, a2⟩ := F.notHc hm
      exact ⟨a1.trans hq, a2.trans hq.symm⟩
  refine ⟨hhc.1, hhc.2, F.hcEdge.trans (lb_st0_edges st c he).2.1, ?_⟩
  by_cases hm : Token.message ∈ callToks st c
  · obtain ⟨_, _, h2, h3, _⟩ := runArms_socket E debug c.passes hnd hm hr
    cases hf : (plan st.srv.batchSize 16 st.sockQ c.passes).full with
    | true => exact Or.inr (h3.trans hf)
    | false => exact Or.inl (h2.trans ((plan_bounded _ _ _ _).2.2.2 hf))
  · exact Or.inl ((F.notMsg hm).2.1.trans (idle_socket h he hm).1)

theorem live_call (E : Env) (debug : Bool) (st : Loop) (c : CallIn) (h : Live st) (he : EventsOK st c)
    (st' : Loop) (out : Out) (hr : processEvents E debug st c = .ok (st', out)) : Live st' := by
  obtain ⟨h1, _, h3, h4⟩ := call_frame E debug st c h he st' out hr
  exact ⟨fun hne => h4.resolve_left hne |> Or.inr, fun hne => absurd h1 hne, fun he' => by rw [h3] at he'; cases he'⟩

theorem recorder (E : Env) (debug : Bool) (st : Loop) (c : CallIn) (st' : Loop) (out : Out)
    (hr : processEvents E debug st c = .ok (st', out)) (hn : Token.statusUpdate ∉ c.events) :
    st'.recd = st.recd.recordAll out.events ∧ st'.published = st.published := by
  rw [processEvents_eq_arms] at hr
  exact (runArms_frame E debug _ hr).notStats fun h => (mem_callToks.mp h).elim hn fun e => nomatch e.1

/-- a call in which every token is reported at most once services the socket at most once, hence runs at most 16
    batches -/
theorem call_bounded (E : Env) (debug : Bool) (st : Loop) (c : CallIn) (hnd : c.events.Nodup)
    (st' : Loop) (out : Out) (hr : processEvents E debug st c = .ok (st', out)) :
    out.batches ≤ 16 ∧ out.sent.length ≤ 16 * st.srv.batchSize := by
  rw [processEvents_eq_arms] at hr
  by_cases hm : Token.message ∈ callToks st c
  · obtain ⟨ev, h1, _, _, h5⟩ := runArms_socket E debug c.passes (callToks_nodup hnd) hm hr
    have hb := (plan_bounded st.srv.batchSize 16 st.sockQ c.passes).1
    exact ⟨h5 ▸ hb, Nat.le_trans (run_shape E debug _ _ _ _ _ h1).2 (Nat.mul_le_mul_right _ hb)⟩
  · obtain ⟨_, _, _, h5, h6⟩ := (runArms_frame E debug _ hr).notMsg hm
    simp [h5, h6]

-- `InsOK ins` / `InsSafe ins` unfold to `PassOK` / `PassSafe` of `mkPass chunk (ins i)`, which do not look at the chunk
theorem insSafe_of_insOK {ins : Nat → PassIn} (h : InsOK ins) : InsSafe ins := fun i =>
  Lemmas.ServerSpec.ss_passSafe_of_ok (p := mkPass [] (ins i)) (h i)

theorem expectedSent_nil (E : Env) (K : Keys) (s : Server) (ps : List Server.Pass)
    (h : ps.flatMap (·.chunk) = []) : ps.flatMap (expectedSent E K s) = [] := by
  rw [List.flatMap_eq_nil_iff] at h ⊢
  intro p hp
  exact List.length_eq_zero_iff.mp (by rw [Lemmas.ServerSpec.ss_expectedSent_length, h p hp, List.take_nil]; rfl)

/-- Progress of one call with nothing arriving: the call returns (`call_safe`), its socket part is one service
    (`runArms_socket`) whose batches are the reference responder's (`run_spec`) over the plan of a quiet queue
    (`plan_quiet`); the last clause is what `drains` needs about the backlog flag. -/
theorem call_progress (E : Env) (hE : EnvOK E) (K : Keys) (debug : Bool) (st : Loop)
    (hs : Inv E K st.srv) (hb : st.srv.batchSize ≤ 2 ^ 32) (hl : Live st) (c : CallIn) (he : EventsOK st c)
    (hi : InsOK c.passes) (hq : Quiet c.passes) :
    ∃ st' out, processEvents E debug st c = .ok (st', out) ∧
      out.sent = (plan st.srv.batchSize 16 st.sockQ c.passes).passes.flatMap (expectedSent E K st.srv) ∧
      (plan st.srv.batchSize 16 st.sockQ c.passes).passes.flatMap (·.chunk) = st.sockQ.take (16 * st.srv.batchSize) ∧
      st'.sockQ = st.sockQ.drop (16 * st.srv.batchSize) ∧
      Inv E K st'.srv ∧ st'.srv.batchSize = st.srv.batchSize ∧ st'.srv.srv = st.srv.srv ∧
      (0 < st.srv.batchSize → st.sockQ.length < 16 * st.srv.batchSize → st'.backlog = false) := by
  obtain ⟨st', out, hr, hs', hbs, _⟩ := call_safe E hE K debug st hs hb c (insSafe_of_insOK hi)
    fun m => hl.hcReg (he.2.2.1.mp m)
  obtain ⟨P1, P2, _, P4⟩ := plan_quiet st.srv.batchSize 16 st.sockQ c.passes hq
  refine ⟨st', out, hr, ?_⟩
  rw [processEvents_eq_arms] at hr
  by_cases hm : Token.message ∈ callToks st c
  · obtain ⟨ev, h1, h2, h3, _⟩ := runArms_socket E debug c.passes (callToks_nodup he.1) hm hr
    obtain ⟨s', g1, _, _, g4⟩ := Lemmas.ServerSpec.run_spec E hE K debug _ st.srv hs hb
      (plan_passes_all _ 16 st.sockQ _ fun i _ => hi i)
    simp only [lb_st0_srv, lb_st0_sockQ] at h1 h2 h3
    rw [g1] at h1
    simp only [Res.ok.injEq, Prod.mk.injEq] at h1
    exact ⟨h1.2.1.symm, P1, h2.trans P2, hs', hbs, h1.1 ▸ g4, fun hB hlen => h3.trans (P4 hB hlen)⟩
  · obtain ⟨hq0, hb0⟩ := idle_socket hl he hm
    obtain ⟨a1, a2, a3, a5, _⟩ := (runArms_frame E debug _ hr).notMsg hm
    refine ⟨?_, P1, ?_, hs', hbs, by rw [a1]; rfl, fun _ _ => a3.trans hb0⟩
    · rw [a5]
      exact (expectedSent_nil E K st.srv _ (by rw [P1, hq0, List.take_nil])).symm
    · rw [a2, lb_st0_sockQ, hq0, List.drop_nil]

theorem pending_ok (st : Loop) (ins : Nat → PassIn) : EventsOK st ⟨pending st, ins⟩ := by
  cases h1 : st.sockEdge <;> cases h2 : st.hcEdge <;> cases h3 : st.timerDue <;>
    simp [EventsOK, pending, h1, h2, h3]

theorem expectedSent_count (E : Env) (K : Keys) (s : Server) (ps : List Server.Pass)
    (hc : ∀ p ∈ ps, p.chunk.length ≤ s.batchSize) :
    (ps.flatMap (expectedSent E K s)).length =
      (accepted s.srv .ietf (ps.flatMap (·.chunk))).length +
      (accepted s.srv .google (ps.flatMap (·.chunk))).length := by
  induction ps with
  | nil => simp [accepted]
  | cons p ps ih =>
    have h1 := Lemmas.ServerSpec.ss_expectedSent_length E K s p
    rw [List.take_of_length_le (hc p (List.mem_cons_self ..))] at h1
    have h2 := ih fun q hq => hc q (List.mem_cons_of_mem _ hq)
    simp only [List.flatMap_cons, List.length_append, Lemmas.ServerSpec.ss_accepted_append, h1, h2]
    omega

theorem drains_aux (E : Env) (hE : EnvOK E) (K : Keys) (debug : Bool) :
    ∀ (n : Nat) (st : Loop) (ins : Nat → Nat → PassIn), Inv E K st.srv → st.srv.batchSize ≤ 2 ^ 32 →
    0 < st.srv.batchSize → Live st → (∀ k, InsOK (ins k)) → (∀ k, Quiet (ins k)) →
    st.sockQ.length < n * (16 * st.srv.batchSize) →
    ∃ (st' : Loop) (outs : List Out) (passes : List Server.Pass),
      idleCalls E debug ins n st = .ok (st', outs) ∧ st'.sockQ = [] ∧ st'.backlog = false ∧
      passes.flatMap (·.chunk) = st.sockQ ∧ (∀ p ∈ passes, p.chunk.length ≤ st.srv.batchSize) ∧
      outs.flatMap (·.sent) = passes.flatMap (expectedSent E K st.srv) := by
  intro n
  induction n with
  | zero => intro st ins _ _ _ _ _ _ hn; simp at hn
  | succ n ih =>
    intro st ins hs hb hB hl hi hq hn
    -- One idle call (`call_progress`) sends the replies of its plan's passes and drops their chunks, up to
    -- 16 · batchSize datagrams, from the queue.  It is the last one if the queue was shorter than that (the queue is
    -- then empty and the backlog flag down); otherwise the rest follows by induction from `st1`, whose server has the
    -- same batch size and SRV value, so that `expectedSent` is the same function (`ss_expectedSent_congr`).
    have he := pending_ok st (ins 0)
    obtain ⟨st1, o1, r1, r2, r3, r4, r5, r6, r7, r8⟩ :=
      call_progress E hE K debug st hs hb hl ⟨pending st, ins 0⟩ he (hi 0) (hq 0)
    have hl1 := live_call E debug st ⟨pending st, ins 0⟩ hl he st1 o1 r1
    have hbd := (plan_bounded st.srv.batchSize 16 st.sockQ (ins 0)).2.1
    simp only at r2 r3
    rw [Nat.succ_mul n (16 * st.srv.batchSize)] at hn
    cases n with
    | zero =>
      simp only [Nat.zero_mul, Nat.zero_add] at hn
      refine ⟨st1, [o1], (plan st.srv.batchSize 16 st.sockQ (ins 0)).passes, ?_, ?_, r8 hB hn, ?_, hbd, ?_⟩
      · simp only [idleCalls, r1, Res.bind_ok]
      · rw [r4, List.drop_of_length_le (by omega)]
      · rw [r3, List.take_of_length_le (by omega)]
      · simp only [List.flatMap_cons, List.flatMap_nil, List.append_nil, r2]
    | succ m =>
      have hlen1 : st1.sockQ.length < (m + 1) * (16 * st1.srv.batchSize) := by
        rw [r4, r6, List.length_drop, Nat.succ_mul m (16 * st.srv.batchSize)]
        rw [Nat.succ_mul m (16 * st.srv.batchSize)] at hn
        omega
      obtain ⟨st2, outs, ps2, g1, g2, g3, g4, g5, g6⟩ :=
        ih st1 (fun k => ins (k + 1)) r5 (by omega) (by omega) hl1 (fun k => hi (k + 1)) (fun k => hq (k + 1)) hlen1
      rw [Lemmas.ServerSpec.ss_expectedSent_congr E K st.srv st1.srv r6 r7] at g6
      refine ⟨st2, o1 :: outs, (plan st.srv.batchSize 16 st.sockQ (ins 0)).passes ++ ps2, ?_, g2, g3, ?_, ?_, ?_⟩
      · rw [idleCalls, r1, Res.bind_ok]
        simp only [g1, Res.bind_ok]
      · rw [List.flatMap_append, r3, g4, r4, List.take_append_drop]
      · intro p hp
        rcases List.mem_append.mp hp with hp | hp
        · exact hbd p hp
        · rw [← r6]; exact g5 p hp
      · simp only [List.flatMap_cons, List.flatMap_append, r2, g6]

theorem drains (E : Env) (hE : EnvOK E) (K : Keys) (hK : K.OK) (debug : Bool) (st : Loop)
    (hs : Inv E K st.srv) (hb : st.srv.batchSize ≤ 2 ^ 32) (hB : 0 < st.srv.batchSize) (hl : Live st)
    (ins : Nat → Nat → PassIn) (hi : ∀ k, InsOK (ins k)) (hq : ∀ k, Quiet (ins k))
    (n : Nat) (hn : st.sockQ.length < n * (16 * st.srv.batchSize)) :
    ∃ (st' : Loop) (outs : List Out) (passes : List Server.Pass), idleCalls E debug ins n st = .ok (st', outs) ∧ st'.sockQ = [] ∧ st'.backlog = false ∧
      passes.flatMap (·.chunk) = st.sockQ ∧ (∀ p ∈ passes, p.chunk.length ≤ st.srv.batchSize) ∧
      outs.flatMap (·.sent) = passes.flatMap (expectedSent E K st.srv) ∧
      (outs.flatMap (·.sent)).length =
        (accepted st.srv.srv .ietf st.sockQ).length + (accepted st.srv.srv .google st.sockQ).length := by
  obtain ⟨st', outs, passes, h1, h2, h3, h4, h5, h6⟩ :=
    drains_aux E hE K debug n st ins hs hb hB hl hi hq hn
  refine ⟨st', outs, passes, h1, h2, h3, h4, h5, h6, ?_⟩
  rw [h6, expectedSent_count E K st.srv passes h5, h4]

theorem polling (E : Env) (hE : EnvOK E) (K : Keys) (debug : Bool) (flagAt : Nat)
    (calls : Nat → CallIn) (hl : Bool)
    (hi : ∀ k, InsSafe (calls k).passes ∧ (Token.healthCheck ∈ (calls k).events → hl = true)) :
    ∀ (fuel k : Nat) (st : Loop), Inv E K st.srv → st.srv.batchSize ≤ 2 ^ 32 → st.hcListener = hl →
    k ≤ flagAt → flagAt < k + fuel →
    ∃ st' outs, pollingLoop E debug flagAt calls fuel k st = .ok (some flagAt, st', outs) ∧
      outs.length = flagAt - k + 1 ∧ Inv E K st'.srv := by
  intro fuel
  induction fuel with
  | zero => intro k st _ _ _ h1 h2; omega
  | succ fuel ih =>
    intro k st hs hb hh h1 h2
    obtain ⟨hk1, hk2⟩ := hi k
    obtain ⟨st1, o1, r1, r2, r3, r4⟩ := call_safe E hE K debug st hs hb (calls k) hk1
      (fun h => by rw [hh]; exact hk2 h)
    by_cases hf : flagAt ≤ k
    · have hek : k = flagAt := by omega
      subst hek
      refine ⟨st1, [o1], ?_, by simp, r2⟩
      simp only [pollingLoop, r1, Res.bind_ok, Nat.le_refl, if_true]
    · obtain ⟨st2, outs, g1, g2, g3⟩ := ih (k + 1) st1 r2 (by omega) (by rw [r4, hh]) (by omega) (by omega)
      refine ⟨st2, o1 :: outs, ?_, by simp only [List.length_cons, g2]; omega, g3⟩
      simp only [pollingLoop, r1, Res.bind_ok, hf, if_false, g1]

theorem tokens_nil (l : List Token) (h1 : Token.message ∉ l) (h2 : Token.healthCheck ∉ l)
    (h3 : Token.statusUpdate ∉ l) : l = [] := by
  cases l with
  | nil => rfl
  | cons t ts =>
    cases t
    · exact absurd (by simp) h1
    · exact absurd (by simp) h2
    · exact absurd (by simp) h3

end Rough.Lemmas.Loop
