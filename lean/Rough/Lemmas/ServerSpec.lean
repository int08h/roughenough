import Rough.Lemmas.ServerSpecBatch
/-
  One pass and any number of passes in closed form, for any fault-injection decisions the Rust code can draw (`pass_gen`,
  `run_gen`); without fault injection the closed form is `expectedSent` / `expectedEvents` (`pass_spec`, `run_spec`).
-/
namespace Rough.Lemmas.ServerSpec
open Rough Rough.Merkle Rough.Stats Rough.ServerSpec Rough.Spec
open Rough.Res (bind_ok)

theorem ss_pass_collect (E : Env) (s : Server) (hvI : s.ietf.ver = .ietf) (hvC : s.classic.ver = .google)
    (htI : s.ietf.tree.levels ≠ []) (htC : s.classic.tree.levels ≠ []) (chunk : List Datagram) :
    ∃ tI tC, Server.collect E { s with ietf := s.ietf.reset, classic := s.classic.reset } chunk
        = .ok ({ s with ietf := { s.ietf with requests := (accepted s.srv .ietf chunk).map ss_reqOf, tree := tI },
                        classic := { s.classic with requests := (accepted s.srv .google chunk).map ss_reqOf, tree := tC } },
               chunk.map (requestEvent s.srv)) ∧
      pushAll (E.mcfg .ietf) (reset s.ietf.tree) ((accepted s.srv .ietf chunk).map (leafOf .ietf)) = .ok tI ∧
      pushAll (E.mcfg .google) (reset s.classic.tree) ((accepted s.srv .google chunk).map (leafOf .google)) = .ok tC ∧
      tI.levels ≠ [] ∧ tC.levels ≠ [] := by
  obtain ⟨bs, srv, lt, ⟨vI, oI, cI, rI, ⟨tI⟩⟩, ⟨vC, oC, cC, rC, ⟨tC⟩⟩⟩ := s
  subst hvI hvC
  cases tI with
  | nil => exact absurd rfl htI
  | cons lI restI =>
  cases tC with
  | nil => exact absurd rfl htC
  | cons lC restC =>
  exact ⟨_, _, ss_collect_spec E chunk _ _ _ _ _ _ _ _ _ _ _ _ _, Lemmas.Merkle.pushAll_cons _ _ _ _,
    Lemmas.Merkle.pushAll_cons _ _ _ _, List.cons_ne_nil _ _, List.cons_ne_nil _ _⟩

theorem ss_expectedEvents_eq (E : Env) (K : Keys) (s : Server) (p : Server.Pass) :
    expectedEvents E K s p =
      (p.chunk.take s.batchSize).map (requestEvent s.srv) ++
      (expectedBatch E K .ietf p.nowIetf (accepted s.srv .ietf (p.chunk.take s.batchSize))).map
        (fun x => (⟨ss_kindOf .ietf, x.dst, x.bytes.length⟩ : Event)) ++
      (expectedBatch E K .google p.nowClassic (accepted s.srv .google (p.chunk.take s.batchSize))).map
        (fun x => (⟨ss_kindOf .google, x.dst, x.bytes.length⟩ : Event)) := rfl

/-- what a pass sends: the IETF batch, then the classic batch, each reply after its fault-injection decision -/
def ss_sentG (E : Env) (K : Keys) (s : Server) (p : Server.Pass) : List Sent :=
  ss_batchG E K .ietf p.nowIetf (accepted s.srv .ietf (p.chunk.take s.batchSize)) p.greaseIetf ++
  ss_batchG E K .google p.nowClassic (accepted s.srv .google (p.chunk.take s.batchSize)) p.greaseClassic

/-- the statistics events a pass records: one per received datagram, then one per response -/
def ss_eventsG (E : Env) (K : Keys) (s : Server) (p : Server.Pass) : List Event :=
  (p.chunk.take s.batchSize).map (requestEvent s.srv) ++
  (ss_batchG E K .ietf p.nowIetf (accepted s.srv .ietf (p.chunk.take s.batchSize)) p.greaseIetf).map
    (fun x => ⟨ss_kindOf .ietf, x.dst, x.bytes.length⟩) ++
  (ss_batchG E K .google p.nowClassic (accepted s.srv .google (p.chunk.take s.batchSize)) p.greaseClassic).map
    (fun x => ⟨ss_kindOf .google, x.dst, x.bytes.length⟩)

theorem ss_sentG_of_ok (E : Env) (K : Keys) (s : Server) (p : Server.Pass) (hp : PassOK p) :
    ss_sentG E K s p = expectedSent E K s p := by
  simp only [ss_sentG, expectedSent, ss_batchG_none _ _ _ _ _ _ hp.2.2.1, ss_batchG_none _ _ _ _ _ _ hp.2.2.2]

theorem ss_eventsG_of_ok (E : Env) (K : Keys) (s : Server) (p : Server.Pass) (hp : PassOK p) :
    ss_eventsG E K s p = expectedEvents E K s p := by
  simp only [ss_eventsG, ss_expectedEvents_eq, ss_batchG_none _ _ _ _ _ _ hp.2.2.1, ss_batchG_none _ _ _ _ _ _ hp.2.2.2]

theorem ss_passSafe_of_ok {p : Server.Pass} (hp : PassOK p) : PassSafe p :=
  ⟨hp.1, hp.2.1, fun g hg => hp.2.2.1 g hg ▸ trivial, fun g hg => hp.2.2.2 g hg ▸ trivial⟩

theorem pass_gen (E : Env) (hE : EnvOK E) (K : Keys) (debug : Bool) (s : Server)
    (hs : Inv E K s) (hb : s.batchSize ≤ 2 ^ 32) (p : Server.Pass) (hp : PassSafe p) :
    ∃ s', Server.pass E debug s p = .ok (s', ss_sentG E K s p, ss_eventsG E K s p) ∧
      Inv E K s' ∧ s'.batchSize = s.batchSize ∧ s'.srv = s.srv := by
  obtain ⟨hclkI, hclkC, hgI, hgC⟩ := hp
  obtain ⟨tI0, tC0, hcol, hpI, hpC, hnI, hnC⟩ :=
    ss_pass_collect E s hs.verI hs.verC hs.treeI hs.treeC (p.chunk.take s.batchSize)
  have hlen : (p.chunk.take s.batchSize).length ≤ 2 ^ 32 := by rw [List.length_take]; omega
  obtain ⟨tI, hsI, htI⟩ := ss_send_gen E hE K .ietf p.nowIetf (accepted s.srv .ietf (p.chunk.take s.batchSize))
    { s.ietf with requests := _, tree := tI0 } s.ietf.tree debug p.greaseIetf _ hs.verI hs.onlI hs.certI rfl hs.treeI hpI hnI
    (Nat.le_trans (ss_accepted_length _ _ _) hlen) (ss_accepted_nonce_len _ _ _) hclkI hgI
  obtain ⟨tC, hsC, htC⟩ := ss_send_gen E hE K .google p.nowClassic (accepted s.srv .google (p.chunk.take s.batchSize))
    { s.classic with requests := _, tree := tC0 } s.classic.tree debug p.greaseClassic _ hs.verC hs.onlC hs.certC rfl
    hs.treeC hpC hnC (Nat.le_trans (ss_accepted_length _ _ _) hlen) (ss_accepted_nonce_len _ _ _) hclkC hgC
  refine ⟨{ s with
      ietf := { s.ietf with requests := (accepted s.srv .ietf (p.chunk.take s.batchSize)).map ss_reqOf, tree := tI },
      classic := { s.classic with requests := (accepted s.srv .google (p.chunk.take s.batchSize)).map ss_reqOf, tree := tC } },
    ?_, ⟨hs.srv, hs.ltPub, hs.verI, hs.verC, hs.onlI, hs.onlC, hs.certI, hs.certC, htI, htC⟩, rfl, rfl⟩
  unfold Server.pass
  simp only [hcol, bind_ok, hsI, hsC, ss_sentG, ss_eventsG, ss_batchG]

theorem pass_spec (E : Env) (hE : EnvOK E) (K : Keys) (debug : Bool) (s : Server)
    (hs : Inv E K s) (hb : s.batchSize ≤ 2 ^ 32) (p : Server.Pass) (hp : PassOK p) :
    ∃ s', Server.pass E debug s p = .ok (s', expectedSent E K s p, expectedEvents E K s p) ∧
      Inv E K s' ∧ s'.batchSize = s.batchSize ∧ s'.srv = s.srv := by
  rw [← ss_sentG_of_ok E K s p hp, ← ss_eventsG_of_ok E K s p hp]
  exact pass_gen E hE K debug s hs hb p (ss_passSafe_of_ok hp)

theorem ss_sentG_congr (E : Env) (K : Keys) (s s' : Server) (hb : s'.batchSize = s.batchSize)
    (hsrv : s'.srv = s.srv) : ss_sentG E K s' = ss_sentG E K s := by
  funext p; simp only [ss_sentG, hb, hsrv]

theorem ss_eventsG_congr (E : Env) (K : Keys) (s s' : Server) (hb : s'.batchSize = s.batchSize)
    (hsrv : s'.srv = s.srv) : ss_eventsG E K s' = ss_eventsG E K s := by
  funext p; simp only [ss_eventsG, hb, hsrv]

theorem run_gen (E : Env) (hE : EnvOK E) (K : Keys) (debug : Bool) :
    ∀ (ps : List Server.Pass) (s : Server), Inv E K s → s.batchSize ≤ 2 ^ 32 → (∀ p ∈ ps, PassSafe p) →
    ∃ s', Server.run E debug s ps = .ok (s', ps.flatMap (ss_sentG E K s), ps.flatMap (ss_eventsG E K s)) ∧
      Inv E K s' ∧ s'.batchSize = s.batchSize ∧ s'.srv = s.srv := by
  intro ps
  induction ps with
  | nil => intro s hs _ _; exact ⟨s, rfl, hs, rfl, rfl⟩
  | cons p ps ih =>
    intro s hs hb hp
    obtain ⟨s1, h1, hs1, hb1, hsrv1⟩ := pass_gen E hE K debug s hs hb p (hp p (List.mem_cons_self ..))
    obtain ⟨s2, h2, hs2, hb2, hsrv2⟩ := ih s1 hs1 (by omega) fun q hq => hp q (List.mem_cons_of_mem _ hq)
    refine ⟨s2, ?_, hs2, by omega, by rw [hsrv2, hsrv1]⟩
    rw [ss_sentG_congr E K s s1 hb1 hsrv1, ss_eventsG_congr E K s s1 hb1 hsrv1] at h2
    simp only [Server.run, h1, bind_ok, h2, List.flatMap_cons]

theorem run_spec (E : Env) (hE : EnvOK E) (K : Keys) (debug : Bool) :
    ∀ (ps : List Server.Pass) (s : Server), Inv E K s → s.batchSize ≤ 2 ^ 32 → (∀ p ∈ ps, PassOK p) →
    ∃ s', Server.run E debug s ps
        = .ok (s', ps.flatMap (expectedSent E K s), ps.flatMap (expectedEvents E K s)) ∧
      Inv E K s' ∧ s'.batchSize = s.batchSize ∧ s'.srv = s.srv := by
  intro ps s hs hb hp
  have h := run_gen E hE K debug ps s hs hb fun p hm => ss_passSafe_of_ok (hp p hm)
  simp only [List.flatMap, List.map_congr_left fun p hm => ss_sentG_of_ok E K s p (hp p hm),
    List.map_congr_left fun p hm => ss_eventsG_of_ok E K s p (hp p hm)] at h ⊢
  exact h

end Rough.Lemmas.ServerSpec
