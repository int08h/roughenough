import Rough.Lemmas.Tag
import Rough.Lemmas.Res
import Rough.Model.Codec
import Rough.Spec.Codec
/-
  Lemmas behind properties C05 (codec round trip / canonical form / agreement with the reference
  decoder) and C06 (no panics in decode and display).

  The hub is `Decodes b m`: what either decoder accepts, namely a zero count word (the empty message, any tail) or the
  canonical encoding `Canon b m` of a non-empty sorted aligned message.  `fromBytes` and `Spec.decode` are each tied to
  it in both directions and `encode` lands in it (`decodes_encode`); round trip, canonicity, payload and the agreement
  of the two decoders are read off.  Both decoders reach `Canon` through `canon_of_parts` (count, offsets, tags, and
  the payload cut by `Spec.pieces`) and accept a canonical encoding through its converse `canon_parts`.
-/
namespace Rough.Lemmas
open Rough

/-- all running end offsets of `vs` starting from `acc` (one per value, including the last). -/
def ends (acc : Nat) : List Bytes → List Nat
  | [] => []
  | v :: vs => (acc + v.length) :: ends (acc + v.length) vs

@[simp] theorem ends_nil (acc : Nat) : ends acc [] = [] := rfl
@[simp] theorem ends_cons (acc : Nat) (v : Bytes) (vs : List Bytes) :
    ends acc (v :: vs) = (acc + v.length) :: ends (acc + v.length) vs := rfl

@[simp] theorem ends_length (acc : Nat) (vs : List Bytes) : (ends acc vs).length = vs.length := by
  induction vs generalizing acc with
  | nil => rfl
  | cons v vs ih => simp [ih]

theorem ends_eq (acc : Nat) (vs : List Bytes) (h : vs ≠ []) :
    ends acc vs = offsetsFrom acc vs ++ [acc + vs.flatten.length] := by
  fun_induction offsetsFrom acc vs with
  | case1 => exact absurd rfl h
  | case2 acc v => simp
  | case3 acc v w rest ih =>
    rw [ends_cons, ih (List.cons_ne_nil _ _)]
    simp only [List.cons_append, List.flatten_cons, List.length_append, Nat.add_assoc]

theorem offsetsFrom_length (acc : Nat) (vs : List Bytes) :
    (offsetsFrom acc vs).length = vs.length - 1 := by
  fun_induction offsetsFrom acc vs with
  | case1 => rfl
  | case2 => rfl
  | case3 acc v w rest ih => simp [ih]

theorem ends_le (vs : List Bytes) : ∀ acc, ∀ o ∈ ends acc vs, acc ≤ o ∧ o ≤ acc + vs.flatten.length := by
  induction vs with
  | nil => intro acc o h; simp at h
  | cons v vs ih =>
    intro acc o h
    simp only [ends_cons, List.mem_cons] at h
    simp only [List.flatten_cons, List.length_append]
    rcases h with rfl | h
    · omega
    · have := ih _ o h; omega

theorem mem_offsetsFrom_ends {acc : Nat} {vs : List Bytes} {o : Nat} (h : o ∈ offsetsFrom acc vs) :
    o ∈ ends acc vs := by
  by_cases hv : vs = []
  · subst hv; simp [offsetsFrom] at h
  · rw [ends_eq acc vs hv]; simp [h]

theorem ends_aligned_iff (vs : List Bytes) : ∀ acc, acc % 4 = 0 →
    ((∀ o ∈ ends acc vs, o % 4 = 0) ↔ ∀ v ∈ vs, v.length % 4 = 0) := by
  induction vs with
  | nil => intro acc _; exact ⟨fun _ => nofun, fun _ => nofun⟩
  | cons v vs ih =>
    intro acc hacc
    have hv : (acc + v.length) % 4 = 0 ↔ v.length % 4 = 0 := by
      rw [Nat.add_mod, hacc, Nat.zero_add, Nat.mod_mod]
    rw [ends_cons, List.forall_mem_cons, List.forall_mem_cons, hv]
    exact and_congr_right fun h1 => ih _ (hv.mpr h1)

theorem zip_tags {ts : List Tag} {vs : List Bytes} (h : ts.length = vs.length) :
    (Msg.mk (ts.zip vs)).tags = ts := by
  simp only [Msg.tags]; exact List.map_fst_zip (by omega)

theorem zip_values {ts : List Tag} {vs : List Bytes} (h : ts.length = vs.length) :
    (Msg.mk (ts.zip vs)).values = vs := by
  simp only [Msg.values]; exact List.map_snd_zip (by omega)

theorem msg_eq_zip (m : Msg) : m = ⟨m.tags.zip m.values⟩ := by
  cases m with | mk f =>
  simp only [Msg.tags, Msg.values, Msg.mk.injEq]
  induction f with
  | nil => rfl
  | cons x xs ih => simp [← ih]

@[simp] theorem tags_length (m : Msg) : m.tags.length = m.fields.length := by simp [Msg.tags]
@[simp] theorem values_length (m : Msg) : m.values.length = m.fields.length := by simp [Msg.values]

theorem get_mem_fields {m : Msg} {t : Tag} {v : Bytes} (h : m.get t = some v) : (t, v) ∈ m.fields := by
  simp only [Msg.get, Option.map_eq_some_iff] at h
  obtain ⟨f, hf, rfl⟩ := h
  have hm := List.mem_of_find?_eq_some hf
  have ht := List.find?_some hf
  have : f.1 = t := by simpa using ht
  rw [← this]; exact hm

theorem get_mem_values {m : Msg} {t : Tag} {v : Bytes} (h : m.get t = some v) : v ∈ m.values :=
  List.mem_map_of_mem (get_mem_fields h)

theorem encode_eq (m : Msg) :
    encode m = le32 m.fields.length ++ ((offsetsFrom 0 m.values).flatMap le32 ++
      (m.tags.flatMap Tag.wire ++ m.values.flatten)) := by
  simp [encode]

theorem encode_zip {ts : List Tag} {vs : List Bytes} (h : ts.length = vs.length) :
    encode ⟨ts.zip vs⟩ =
      le32 ts.length ++ ((offsetsFrom 0 vs).flatMap le32 ++ (ts.flatMap Tag.wire ++ vs.flatten)) := by
  rw [encode_eq, zip_tags h, zip_values h, List.length_zip, ← h, Nat.min_self]

theorem encode_length (m : Msg) : (encode m).length = encodedSize m := by
  rw [encode_eq, encodedSize]
  simp only [List.length_append, le32_length, length_flatMap_le32, length_flatMap_wire, offsetsFrom_length,
    tags_length, values_length, List.length_flatten]
  split <;> omega

theorem encode_length' (m : Msg) (hne : m.fields ≠ []) :
    (encode m).length = 8 * m.fields.length + m.values.flatten.length := by
  have : 0 < m.fields.length := List.length_pos_iff.mpr hne
  rw [encode_length, encodedSize, List.length_flatten]
  split <;> omega

theorem encode_drop_header (m : Msg) (hne : m.fields ≠ []) :
    (encode m).drop (8 * m.fields.length) = m.values.flatten := by
  have h := encode_length' m hne
  rw [encode_eq, ← List.append_assoc, ← List.append_assoc, List.length_append] at h
  rw [encode_eq, ← List.append_assoc, ← List.append_assoc]
  exact List.drop_left' (by omega)

/-! ### cutting the payload: `Spec.pieces`, and `cutValues` as `pieces` behind two checks -/

theorem slice_ok {b : Bytes} {s e : Nat} {site : String} (h1 : s ≤ e) (h2 : e ≤ b.length) :
    slice b s e site = .ok ((b.drop s).take (e - s)) := by
  simp [slice, h1, h2]

theorem nonDecreasing_cons2 (a b : Nat) (l : List Nat) :
    Spec.nonDecreasing (a :: b :: l) = true ↔ a ≤ b ∧ Spec.nonDecreasing (b :: l) = true := by
  simp [Spec.nonDecreasing]

theorem pieces_cons2 (P : Bytes) (a b : Nat) (l : List Nat) :
    Spec.pieces P (a :: b :: l) = (P.drop a).take (b - a) :: Spec.pieces P (b :: l) := rfl

theorem pieces_length (P : Bytes) : ∀ (es : List Nat) (s : Nat), (Spec.pieces P (s :: es)).length = es.length := by
  intro es
  induction es with
  | nil => intro s; rfl
  | cons e es ih => intro s; rw [pieces_cons2, List.length_cons, ih, List.length_cons]

theorem cutValues_eq_pieces (b : Bytes) (h : Nat) : ∀ (es : List Nat) (start : Nat),
    cutValues b h start es =
      if Spec.nonDecreasing (start :: es) = true ∧ ∀ e ∈ es, h + e ≤ b.length
      then .ok (Spec.pieces (b.drop h) (start :: es)) else .err := by
  intro es
  induction es with
  | nil => intro start; simp [cutValues, Spec.nonDecreasing, Spec.pieces]
  | cons e es ih =>
    intro start
    by_cases hcond : h + e > b.length ∨ start > e
    · rw [cutValues, if_pos (by omega), if_neg]
      rw [nonDecreasing_cons2]
      rintro ⟨h1, h2⟩
      have := h2 e (List.mem_cons_self ..)
      omega
    · have hse : start ≤ e := by omega
      have he : h + e ≤ b.length := by omega
      have hv : (b.drop (h + start)).take (h + e - (h + start)) = ((b.drop h).drop start).take (e - start) := by
        rw [List.drop_drop, Nat.add_sub_add_left]
      rw [cutValues, if_neg (by omega), slice_ok (by omega) he, Res.bind_ok, ih e, Res.ite_bind, Res.bind_ok,
        Res.bind_err, hv, pieces_cons2]
      refine ite_congr (propext ?_) (fun _ => rfl) (fun _ => rfl)
      simp only [nonDecreasing_cons2 start, List.forall_mem_cons, hse, he, true_and]

theorem cutValues_length {b : Bytes} {h s : Nat} {es : List Nat} {vs : List Bytes}
    (hv : cutValues b h s es = .ok vs) : vs.length = es.length := by
  rw [cutValues_eq_pieces] at hv
  split at hv
  · cases hv; exact pieces_length _ _ _
  · cases hv

theorem nonDecreasing_ends (vs : List Bytes) : ∀ acc, Spec.nonDecreasing (acc :: ends acc vs) = true := by
  induction vs with
  | nil => intro acc; simp [Spec.nonDecreasing]
  | cons v vs ih => intro acc; rw [ends_cons, nonDecreasing_cons2]; simp [ih]

theorem nonDecreasing_le_last : ∀ (l : List Nat) (a L : Nat),
    Spec.nonDecreasing (a :: (l ++ [L])) = true → ∀ e ∈ a :: (l ++ [L]), e ≤ L := by
  intro l
  induction l with
  | nil =>
    intro a L h
    rw [List.nil_append, nonDecreasing_cons2] at h
    exact List.forall_mem_cons.mpr ⟨h.1, List.forall_mem_cons.mpr ⟨Nat.le_refl L, nofun⟩⟩
  | cons x l ih =>
    intro a L h
    rw [List.cons_append, nonDecreasing_cons2] at h
    have hx := ih x L h.2
    exact List.forall_mem_cons.mpr ⟨Nat.le_trans h.1 (hx x List.mem_cons_self), hx⟩

theorem pieces_spec (P : Bytes) : ∀ (es : List Nat) (s : Nat), Spec.nonDecreasing (s :: es) = true →
    (∀ e ∈ es, e ≤ P.length) →
    ends s (Spec.pieces P (s :: es)) = es ∧
      (P.drop s).take (Spec.pieces P (s :: es)).flatten.length = (Spec.pieces P (s :: es)).flatten := by
  intro es
  induction es with
  | nil => intro s _ _; simp [Spec.pieces]
  | cons e es ih =>
    intro s hnd hb
    rw [nonDecreasing_cons2] at hnd
    obtain ⟨h1, h2⟩ := ih e hnd.2 (fun x hx => hb x (List.mem_cons_of_mem _ hx))
    have he := hb e (List.mem_cons_self ..)
    have hlen : ((P.drop s).take (e - s)).length = e - s := by
      rw [List.length_take, List.length_drop]; omega
    have hse : s + (e - s) = e := by omega
    rw [pieces_cons2, ends_cons, hlen, hse, h1, List.flatten_cons, List.length_append, hlen, List.take_add,
      List.drop_drop, hse, h2]
    exact ⟨rfl, rfl⟩

theorem pieces_ends (P : Bytes) : ∀ (vs : List Bytes) (s : Nat),
    (P.drop s).take vs.flatten.length = vs.flatten → s + vs.flatten.length ≤ P.length →
    Spec.pieces P (s :: ends s vs) = vs := by
  intro vs
  induction vs with
  | nil => intros; rfl
  | cons v vs ih =>
    intro s ht hl
    rw [List.flatten_cons, List.length_append] at ht hl
    rw [List.take_add, List.drop_drop] at ht
    have hvl : ((P.drop s).take v.length).length = v.length := by
      rw [List.length_take, List.length_drop]; omega
    obtain ⟨ht1, ht2⟩ := List.append_inj ht hvl
    rw [ends_cons, pieces_cons2, Nat.add_sub_cancel_left, ht1, ih _ ht2 (by omega)]

/-- with the payload length as last boundary the range check is implied by monotonicity -/
theorem cutValues_payload (b : Bytes) (h : Nat) (hh : h ≤ b.length) (offs : List Nat) :
    cutValues b h 0 (offs ++ [b.length - h]) =
      if Spec.nonDecreasing (0 :: (offs ++ [(b.drop h).length])) = true
      then .ok (Spec.pieces (b.drop h) (0 :: (offs ++ [(b.drop h).length]))) else .err := by
  rw [cutValues_eq_pieces, List.length_drop]
  congr 1
  refine propext ⟨And.left, fun hnd => ⟨hnd, fun e he => ?_⟩⟩
  have := nonDecreasing_le_last offs 0 _ hnd e (List.mem_cons_of_mem _ he)
  omega

theorem readOffsets_some {len : Nat} : ∀ {k : Nat} {rest : Bytes} {os : List Nat} {r : Bytes},
    readOffsets len k rest = some (os, r) →
    rest = os.flatMap le32 ++ r ∧ os.length = k ∧
      ∀ o ∈ os, o % 4 = 0 ∧ o ≤ len % 4294967296 ∧ o < 4294967296 := by
  intro k
  induction k with
  | zero => intro rest os r h; cases h; exact ⟨rfl, rfl, nofun⟩
  | succ k ih =>
    intro rest os r h
    rw [readOffsets] at h
    by_cases h4 : rest.length < 4
    · rw [if_pos h4] at h; cases h
    by_cases hm : rd32 rest % 4 ≠ 0
    · rw [if_neg h4, if_pos hm] at h; cases h
    by_cases hle : rd32 rest > len % 4294967296
    · rw [if_neg h4, if_neg hm, if_pos hle] at h; cases h
    rw [if_neg h4, if_neg hm, if_neg hle] at h
    cases hrec : readOffsets len k (rest.drop 4) with
    | none => rw [hrec] at h; cases h
    | some p =>
      rw [hrec] at h; cases h
      obtain ⟨h1, h2, h3⟩ := ih hrec
      refine ⟨?_, congrArg (· + 1) h2, List.forall_mem_cons.mpr ⟨⟨?_, ?_, rd32_lt rest⟩, h3⟩⟩
      · rw [List.flatMap_cons, List.append_assoc, ← h1]
        exact (le32_rd32 (Nat.le_of_not_lt h4)).symm
      · exact Decidable.not_not.mp hm
      · exact Nat.le_of_not_lt hle

theorem readOffsets_of {len : Nat} : ∀ (os : List Nat) (r : Bytes),
    (∀ o ∈ os, o % 4 = 0 ∧ o ≤ len % 4294967296 ∧ o < 4294967296) →
    readOffsets len os.length (os.flatMap le32 ++ r) = some (os, r) := by
  intro os
  induction os with
  | nil => intro r _; rfl
  | cons o os ih =>
    intro r h
    obtain ⟨⟨h1, h2, h3⟩, h⟩ := List.forall_mem_cons.mp h
    have hrd : rd32 (le32 o ++ (os.flatMap le32 ++ r)) = o := by
      rw [rd32_le32_append]; exact Nat.mod_eq_of_lt h3
    rw [List.length_cons, List.flatMap_cons, List.append_assoc, readOffsets, hrd,
      if_neg (by rw [List.length_append, le32_length]; omega), if_neg (Decidable.not_not.mpr h1),
      if_neg (Nat.not_lt.mpr h2), List.drop_left' (le32_length o), ih r h]

/-- every tag of `ts` is above the last tag read so far, if there is one (the state `readTags` carries) -/
def Above (last : Option Tag) (ts : List Tag) : Prop :=
  ∀ l, last = some l → ∀ t ∈ ts, l.idx < t.idx

/-- `readTags`' ordering test on the next tag -/
def tooLow (last : Option Tag) (t : Tag) : Bool :=
  match last with
  | some l => decide (t.idx ≤ l.idx)
  | none => false

/-- match-free unfolding of `readTags` -/
theorem readTags_succ (last : Option Tag) (k : Nat) (rest : Bytes) :
    readTags last (k + 1) rest =
      if rest.length < 4 then none else
        (Tag.ofWire (rest.take 4)).bind fun t =>
          if tooLow last t then none else
            (readTags (some t) k (rest.drop 4)).map fun p => (t :: p.1, p.2) := by
  rw [readTags]
  by_cases h4 : rest.length < 4
  · rw [if_pos h4, if_pos h4]
  rw [if_neg h4, if_neg h4]
  cases Tag.ofWire (rest.take 4) with
  | none => rfl
  | some t =>
    rw [Option.bind_some]
    show (if tooLow last t = true then none else _) = _
    by_cases hl : tooLow last t = true
    · rw [if_pos hl, if_pos hl]
    · rw [if_neg hl, if_neg hl]; cases readTags (some t) k (rest.drop 4) <;> rfl

theorem readTags_some : ∀ {k : Nat} {last : Option Tag} {rest : Bytes} {ts : List Tag} {r : Bytes},
    readTags last k rest = some (ts, r) →
    rest = ts.flatMap Tag.wire ++ r ∧ ts.length = k ∧
      ts.Pairwise (fun a b => a.idx < b.idx) ∧ Above last ts := by
  intro k
  induction k with
  | zero => intro last rest ts r h; cases h; exact ⟨rfl, rfl, .nil, fun _ _ _ => nofun⟩
  | succ k ih =>
    intro last rest ts r h
    rw [readTags_succ] at h
    by_cases h4 : rest.length < 4
    · rw [if_pos h4] at h; cases h
    rw [if_neg h4] at h
    obtain ⟨t, hof, h⟩ := Option.bind_eq_some_iff.mp h
    by_cases hlast : tooLow last t = true
    · rw [if_pos hlast] at h; cases h
    rw [if_neg hlast] at h
    obtain ⟨⟨ts', r'⟩, hrec, e⟩ := Option.map_eq_some_iff.mp h
    cases e
    obtain ⟨h1, h2, h3, h4'⟩ := ih hrec
    have habove : ∀ u ∈ ts', t.idx < u.idx := h4' t rfl
    refine ⟨?_, congrArg (· + 1) h2, List.pairwise_cons.mpr ⟨habove, h3⟩, ?_⟩
    · rw [List.flatMap_cons, List.append_assoc, ← h1, wire_of_ofWire hof, List.take_append_drop]
    · rintro l rfl u hu
      have hlt : l.idx < t.idx := Nat.lt_of_not_le fun hle => hlast (decide_eq_true hle)
      rcases List.mem_cons.mp hu with rfl | hu
      · exact hlt
      · exact Nat.lt_trans hlt (habove u hu)

theorem readTags_of : ∀ (ts : List Tag) (last : Option Tag) (r : Bytes),
    ts.Pairwise (fun a b => a.idx < b.idx) → Above last ts →
    readTags last ts.length (ts.flatMap Tag.wire ++ r) = some (ts, r) := by
  intro ts
  induction ts with
  | nil => intro last r _ _; rfl
  | cons t ts ih =>
    intro last r hp ha
    rw [List.pairwise_cons] at hp
    have hlast : ¬ tooLow last t = true := by
      cases last with
      | none => nofun
      | some l => exact fun h => Nat.not_le_of_lt (ha l rfl t List.mem_cons_self) (of_decide_eq_true h)
    rw [List.length_cons, List.flatMap_cons, List.append_assoc, readTags_succ,
      if_neg (by rw [List.length_append, wire_length]; omega), List.take_left' (wire_length t), ofWire_wire,
      Option.bind_some, if_neg hlast, List.drop_left' (wire_length t),
      ih (some t) r hp.2 (fun l hl u hu => by cases hl; exact hp.1 u hu)]
    rfl

/-! ### canonical form of an accepted non-empty message -/

/-- `b` is the canonical encoding of the non-empty, sorted, 4-aligned message `m`. -/
structure Canon (b : Bytes) (m : Msg) : Prop where
  ne : m.fields ≠ []
  eq : b = encode m
  sorted : m.Sorted
  aligned : m.Aligned

theorem values_ne_nil {m : Msg} (hne : m.fields ≠ []) : m.values ≠ [] :=
  fun e => hne (List.map_eq_nil_iff.mp e)

theorem canon_length {b : Bytes} {m : Msg} (hc : Canon b m) :
    b.length = 8 * m.fields.length + m.values.flatten.length ∧ b.length % 4 = 0 ∧
      1 ≤ m.fields.length := by
  obtain ⟨hne, rfl, _, ha⟩ := hc
  have h1 := encode_length' m hne
  have h2 := (ends_aligned_iff m.values 0 rfl).mpr ha (0 + m.values.flatten.length)
    (by rw [ends_eq 0 m.values (values_ne_nil hne)]; simp)
  have : 0 < m.fields.length := List.length_pos_iff.mpr hne
  exact ⟨h1, by omega, this⟩

/-- Both decoders end here: `multiTag` and `Spec.decode` differ only in how they take count, offsets, tags and payload
    off the input. -/
theorem canon_of_parts {n : Nat} {offs : List Nat} {ts : List Tag} {P : Bytes}
    (hn : 1 ≤ n) (ho : offs.length = n - 1) (ht : ts.length = n)
    (hs : ts.Pairwise (fun a b => a.idx < b.idx)) (ha : ∀ o ∈ offs, o % 4 = 0) (hP : P.length % 4 = 0)
    (hnd : Spec.nonDecreasing (0 :: (offs ++ [P.length])) = true) :
    Canon (le32 n ++ (offs.flatMap le32 ++ (ts.flatMap Tag.wire ++ P)))
      ⟨ts.zip (Spec.pieces P (0 :: (offs ++ [P.length])))⟩ := by
  obtain ⟨he, hf⟩ := pieces_spec P (offs ++ [P.length]) 0 hnd fun e he =>
    nonDecreasing_le_last offs 0 _ hnd e (List.mem_cons_of_mem _ he)
  -- all that is used of the cut pieces `vs`: their end offsets (`he`) and that they concatenate to the payload (`hf`)
  generalize Spec.pieces P (0 :: (offs ++ [P.length])) = vs at he hf ⊢
  have hvl : vs.length = n := by
    have := congrArg List.length he
    rw [ends_length, List.length_append, ho, List.length_singleton] at this; omega
  have hvne : vs ≠ [] := by intro e; rw [e] at hvl; simp at hvl; omega
  have htv : ts.length = vs.length := by omega
  have hal : ∀ v ∈ vs, v.length % 4 = 0 := by
    refine (ends_aligned_iff vs 0 rfl).mp ?_
    rw [he]
    exact List.forall_mem_append.mpr ⟨ha, List.forall_mem_singleton.mpr hP⟩
  rw [ends_eq 0 vs hvne] at he
  obtain ⟨hoffs, hend⟩ := List.append_inj' he rfl
  rw [List.cons.injEq, Nat.zero_add] at hend
  rw [List.drop_zero, hend.1, List.take_length] at hf
  refine ⟨?_, ?_, ?_, ?_⟩
  · intro (e : ts.zip vs = [])
    have := congrArg List.length e
    rw [List.length_zip, ← htv, Nat.min_self, ht, List.length_nil] at this; omega
  · rw [encode_zip htv, ht, hoffs, hf]
  · rw [Msg.Sorted, zip_tags htv]; exact hs
  · rw [Msg.Aligned, zip_values htv]; exact hal

theorem canon_parts {b : Bytes} {m : Msg} (hc : Canon b m) :
    b = le32 m.fields.length ++
      ((offsetsFrom 0 m.values).flatMap le32 ++ (m.tags.flatMap Tag.wire ++ m.values.flatten)) ∧
    (offsetsFrom 0 m.values).length = m.fields.length - 1 ∧
    (∀ o ∈ offsetsFrom 0 m.values, o % 4 = 0 ∧ o ≤ m.values.flatten.length) ∧
    Spec.nonDecreasing (0 :: (offsetsFrom 0 m.values ++ [m.values.flatten.length])) = true ∧
    (⟨m.tags.zip (Spec.pieces m.values.flatten (0 :: (offsetsFrom 0 m.values ++ [m.values.flatten.length])))⟩ : Msg) =
      m := by
  obtain ⟨hne, rfl, _, ha⟩ := hc
  have hb : 0 :: (offsetsFrom 0 m.values ++ [m.values.flatten.length]) = 0 :: ends 0 m.values := by
    rw [ends_eq 0 m.values (values_ne_nil hne), Nat.zero_add]
  refine ⟨encode_eq m, by rw [offsetsFrom_length, values_length], fun o ho => ?_, ?_, ?_⟩
  · have hm := mem_offsetsFrom_ends ho
    exact ⟨(ends_aligned_iff m.values 0 rfl).mpr ha o hm, by have := (ends_le m.values 0 o hm).2; omega⟩
  · rw [hb]; exact nonDecreasing_ends m.values 0
  · rw [hb, pieces_ends _ _ 0 (by rw [List.drop_zero, List.take_length]) (Nat.le_of_eq (Nat.zero_add _)),
      ← msg_eq_zip]

/-! ### the model decoder -/

theorem encode_single (t : Tag) (v : Bytes) : encode ⟨[(t, v)]⟩ = le32 1 ++ (t.wire ++ v) := by
  simp [encode, Msg.tags, Msg.values, offsetsFrom]

theorem singleTag_err_or_canon {b : Bytes} (h4 : 4 ≤ b.length) (hmod : b.length % 4 = 0) (hrd : rd32 b = 1) :
    singleTag b = .err ∨ ∃ m, singleTag b = .ok m ∧ Canon b m := by
  unfold singleTag
  split; · exact .inl rfl
  rw [slice_ok (by omega) (by omega), Res.bind_ok]
  split; · exact .inl rfl
  rename_i t hof
  refine .inr ⟨_, rfl, nofun, ?_, by simp [Msg.Sorted, Msg.tags], ?_⟩
  · rw [encode_single, wire_of_ofWire hof, ← hrd, le32_rd32_take h4,
      show b.drop 8 = (b.drop 4).drop 4 by rw [List.drop_drop], List.take_append_drop, List.take_append_drop]
  · intro v hv
    rw [Msg.values, List.map_cons, List.map_nil, List.mem_singleton] at hv
    rw [hv, List.length_drop]
    omega

theorem singleTag_encode (t : Tag) (v : Bytes) :
    singleTag (encode ⟨[(t, v)]⟩) = .ok ⟨[(t, v)]⟩ := by
  have h1 : ((le32 1 ++ (t.wire ++ v)).drop 4).take (8 - 4) = t.wire := by
    rw [List.drop_left' (le32_length 1), List.take_left' (wire_length t)]
  have h2 : (le32 1 ++ (t.wire ++ v)).drop 8 = v := by
    rw [← List.append_assoc]; exact List.drop_left' (by simp)
  rw [encode_single, singleTag, if_neg (by simp; omega), slice_ok (by omega) (by simp; omega), Res.bind_ok, h1,
    ofWire_wire, h2]

theorem header_of_reads {n : Nat} {b rest r' : Bytes} {offs : List Nat} {ts : List Tag} (h4 : 4 ≤ b.length)
    (hro : readOffsets b.length (n - 1) (b.drop 4) = some (offs, rest))
    (hrt : readTags none n rest = some (ts, r')) :
    b = le32 (rd32 b) ++ (offs.flatMap le32 ++ (ts.flatMap Tag.wire ++ r')) ∧
      4 + 4 * (n - 1) + 4 * n ≤ b.length ∧ b.drop (4 + 4 * (n - 1) + 4 * n) = r' := by
  obtain ⟨ho1, ho2, _⟩ := readOffsets_some hro
  obtain ⟨ht1, ht2, _⟩ := readTags_some hrt
  have hb : b = (le32 (rd32 b) ++ (offs.flatMap le32 ++ ts.flatMap Tag.wire)) ++ r' := by
    rw [List.append_assoc, List.append_assoc, ← ht1, ← ho1, le32_rd32 h4]
  have hpre : (le32 (rd32 b) ++ (offs.flatMap le32 ++ ts.flatMap Tag.wire)).length = 4 + 4 * (n - 1) + 4 * n := by
    rw [List.length_append, List.length_append, le32_length, length_flatMap_le32, length_flatMap_wire, ho2, ht2,
      Nat.add_assoc]
  refine ⟨hb.trans (by simp only [List.append_assoc]), ?_, ?_⟩
  · rw [hb, List.length_append, hpre]; exact Nat.le_add_right ..
  · rw [hb]; exact List.drop_left' hpre

theorem multiTag_of_reads {n : Nat} {b rest r' : Bytes} {offs : List Nat} {ts : List Tag} (h4 : 4 ≤ b.length)
    (hro : readOffsets b.length (n - 1) (b.drop 4) = some (offs, rest))
    (hrt : readTags none n rest = some (ts, r')) :
    multiTag n b = if Spec.nonDecreasing (0 :: (offs ++ [r'.length])) = true
      then .ok ⟨ts.zip (Spec.pieces r' (0 :: (offs ++ [r'.length])))⟩ else .err := by
  obtain ⟨_, hle, hdrop⟩ := header_of_reads h4 hro hrt
  simp only [multiTag, hro, hrt, csub, if_pos hle, Res.bind_ok, cutValues_payload b _ hle, hdrop]
  split <;> rfl

theorem multiTag_err_or_canon {n : Nat} {b : Bytes} (hn : 2 ≤ n) (h4 : 4 ≤ b.length)
    (hmod : b.length % 4 = 0) (hrd : rd32 b = n) :
    multiTag n b = .err ∨ ∃ m, multiTag n b = .ok m ∧ Canon b m := by
  cases hro : readOffsets b.length (n - 1) (b.drop 4) with
  | none => exact .inl (by simp [multiTag, hro])
  | some p =>
    cases hrt : readTags none n p.2 with
    | none => exact .inl (by simp [multiTag, hro, hrt])
    | some q =>
      obtain ⟨offs, rest⟩ := p
      obtain ⟨ts, r'⟩ := q
      rw [multiTag_of_reads h4 hro hrt]
      split
      · rename_i hnd
        obtain ⟨hb, hle, hdrop⟩ := header_of_reads h4 hro hrt
        obtain ⟨_, ho2, ho3⟩ := readOffsets_some hro
        obtain ⟨_, ht2, ht3, _⟩ := readTags_some hrt
        have hr : r'.length % 4 = 0 := by rw [← hdrop, List.length_drop]; omega
        refine .inr ⟨_, rfl, ?_⟩
        rw [hb, hrd]
        exact canon_of_parts (by omega) ho2 ht2 ht3 (fun o ho => (ho3 o ho).1) hr hnd
      · exact .inl rfl

theorem multiTag_encode {b : Bytes} {m : Msg} (hc : Canon b m) (hn : 2 ≤ m.fields.length)
    (hlen : b.length < 4294967296) : multiTag m.fields.length b = .ok m := by
  obtain ⟨hb, hol, hoff, hnd, hm⟩ := canon_parts hc
  have hl := (canon_length hc).1
  have hro : readOffsets b.length (m.fields.length - 1) (b.drop 4) =
      some (offsetsFrom 0 m.values, m.tags.flatMap Tag.wire ++ m.values.flatten) := by
    have hd : b.drop 4 = (offsetsFrom 0 m.values).flatMap le32 ++ (m.tags.flatMap Tag.wire ++ m.values.flatten) := by
      rw [hb]; exact List.drop_left' (le32_length _)
    rw [hd, ← hol]
    exact readOffsets_of _ _ fun o ho => ⟨(hoff o ho).1, by have := (hoff o ho).2; omega, by
      have := (hoff o ho).2; omega⟩
  have hrt : readTags none m.fields.length (m.tags.flatMap Tag.wire ++ m.values.flatten) =
      some (m.tags, m.values.flatten) := by
    rw [← tags_length]; exact readTags_of m.tags none _ hc.sorted nofun
  rw [multiTag_of_reads (by omega) hro hrt, if_pos hnd, hm]

theorem fromBytes_ill_sized {b : Bytes} (h : b.length < 4 ∨ b.length % 4 ≠ 0) : fromBytes b = .err := by
  unfold fromBytes
  by_cases h4 : b.length < 4
  · rw [if_pos h4]
  · rw [if_neg h4, if_pos (h.resolve_left h4)]

theorem fromBytes_eq {b : Bytes} (h4 : 4 ≤ b.length) (hm : b.length % 4 = 0) :
    fromBytes b = if rd32 b = 0 then .ok Msg.empty else if rd32 b = 1 then singleTag b
      else if rd32 b ≤ 1024 then multiTag (rd32 b) b else .err := by
  unfold fromBytes
  rw [if_neg (by omega), if_neg (by omega)]

/-- What both decoders accept: a well-sized input whose count word is 0 (any tail; the empty message), or the
    canonical encoding of `m`. -/
def Decodes (b : Bytes) (m : Msg) : Prop :=
  (4 ≤ b.length ∧ b.length % 4 = 0 ∧ rd32 b = 0 ∧ m = ⟨[]⟩) ∨ Canon b m

theorem Decodes.canon {b : Bytes} {m : Msg} (h : Decodes b m) (hne : m.fields ≠ []) : Canon b m :=
  h.resolve_left fun h0 => hne (h0.2.2.2 ▸ rfl)

theorem Decodes.aligned {b : Bytes} {m : Msg} (h : Decodes b m) : m.Aligned := by
  rcases h with ⟨_, _, _, rfl⟩ | hc
  · exact fun _ hv => nomatch hv
  · exact hc.aligned

theorem decodes_encode (m : Msg) (hs : m.Sorted) (ha : m.Aligned) : Decodes (encode m) m := by
  by_cases hne : m.fields = []
  · cases m; cases hne; exact .inl ⟨by decide, by decide, by decide, rfl⟩
  · exact .inr ⟨hne, rfl, hs, ha⟩

theorem fromBytes_err_or_decodes (b : Bytes) :
    fromBytes b = .err ∨ ∃ m, fromBytes b = .ok m ∧ Decodes b m := by
  by_cases hsz : b.length < 4 ∨ b.length % 4 ≠ 0
  · exact .inl (fromBytes_ill_sized hsz)
  have h4 : 4 ≤ b.length := by omega
  have hm : b.length % 4 = 0 := by omega
  rw [fromBytes_eq h4 hm]
  by_cases h0 : rd32 b = 0
  · rw [if_pos h0]; exact .inr ⟨_, rfl, .inl ⟨h4, hm, h0, rfl⟩⟩
  refine Or.imp_right (fun (⟨m, h, hc⟩ : ∃ m, _ = Res.ok m ∧ Canon b m) => ⟨m, h, .inr hc⟩) ?_
  rw [if_neg h0]
  by_cases h1 : rd32 b = 1
  · rw [if_pos h1]; exact singleTag_err_or_canon h4 hm h1
  rw [if_neg h1]
  by_cases h2 : rd32 b ≤ 1024
  · rw [if_pos h2]; exact multiTag_err_or_canon (by omega) h4 hm rfl
  · rw [if_neg h2]; exact .inl rfl

theorem fromBytes_decodes {b : Bytes} {m : Msg} (h : fromBytes b = .ok m) : Decodes b m := by
  obtain he | ⟨_, hm, hd⟩ := fromBytes_err_or_decodes b
  · rw [he] at h; cases h
  · rw [hm] at h; cases h; exact hd

theorem fromBytes_aligned {b : Bytes} {m : Msg} (h : fromBytes b = .ok m) : m.Aligned :=
  (fromBytes_decodes h).aligned

theorem fromBytes_no_panic (b : Bytes) (s : String) : fromBytes b ≠ .panic s := by
  obtain he | ⟨_, hm, _⟩ := fromBytes_err_or_decodes b
  · rw [he]; nofun
  · rw [hm]; nofun

theorem decodes_fromBytes {b : Bytes} {m : Msg} (hlen : b.length < 4294967296) (h : Decodes b m) :
    fromBytes b = .ok m := by
  rcases h with ⟨h4, hm, h0, rfl⟩ | hc
  · rw [fromBytes_eq h4 hm, if_pos h0]; rfl
  obtain ⟨hl1, hl2, hl3⟩ := canon_length hc
  have hrd : rd32 b = m.fields.length := by
    rw [(canon_parts hc).1, rd32_le32_append]; omega
  rw [fromBytes_eq (by omega) hl2, hrd, if_neg (by omega)]
  by_cases h1 : m.fields.length = 1
  · rw [if_pos h1]
    obtain ⟨hne, rfl, -, -⟩ := hc
    obtain ⟨⟨t, v⟩, hf⟩ := List.length_eq_one_iff.mp h1
    cases m; cases hf
    exact singleTag_encode t v
  · rw [if_neg h1]
    -- counts 19 .. 1024 cannot occur: there are only 18 tags to ascend through
    have h18 : m.fields.length ≤ 18 := by
      have := sorted_length_le hc.sorted; rwa [tags_length] at this
    rw [if_pos (by omega)]
    exact multiTag_encode hc (by omega) hlen

theorem encode_decode (b : Bytes) (m : Msg) (h : fromBytes b = .ok m) (hne : m.fields ≠ []) : encode m = b :=
  ((fromBytes_decodes h).canon hne).eq.symm

theorem payload (b : Bytes) (m : Msg) (h : fromBytes b = .ok m) (hne : m.fields ≠ []) :
    8 * m.fields.length ≤ b.length ∧ m.values.flatten = b.drop (8 * m.fields.length) := by
  have hc := (fromBytes_decodes h).canon hne
  have hl := (canon_length hc).1
  obtain ⟨_, rfl, _, _⟩ := hc
  exact ⟨by omega, (encode_drop_header m hne).symm⟩

/-! ### the reference decoder -/

theorem words_append {w : Bytes} (h : w.length = 4) (r : Bytes) :
    Spec.words (w ++ r) = w :: Spec.words r := by
  obtain ⟨a, b, c, d, rfl⟩ := eq_four h
  simp [Spec.words]

theorem words_flatten (A : List Bytes) (hA : ∀ w ∈ A, w.length = 4) (r : Bytes) :
    Spec.words (A.flatten ++ r) = A ++ Spec.words r := by
  induction A with
  | nil => rfl
  | cons w A ih =>
    rw [List.flatten_cons, List.append_assoc, words_append (hA w (List.mem_cons_self ..)),
      ih fun u hu => hA u (List.mem_cons_of_mem _ hu), List.cons_append]

theorem words_length_le (b : Bytes) : 4 * (Spec.words b).length ≤ b.length := by
  fun_induction Spec.words b with
  | case1 a b c d rest ih => simp only [List.length_cons]; omega
  | case2 => exact Nat.zero_le _

theorem words_take (b : Bytes) (k : Nat) (h : 4 * k ≤ b.length) :
    ∃ A : List Bytes, A.length = k ∧ (∀ w ∈ A, w.length = 4) ∧ A.flatten = b.take (4 * k) := by
  have hl : (b.take (4 * k)).length = 4 * k := List.length_take_of_le h
  obtain ⟨h1, h2⟩ := chunks_spec 4 (by decide) (b.take (4 * k)) (by omega)
  have := List.length_flatten_const 4 _ h1
  rw [h2, hl] at this
  exact ⟨_, by omega, h1, h2⟩

theorem header_split {b : Bytes} {n : Nat} (hn : 1 ≤ n) (hl : 8 * n ≤ b.length) :
    ∃ A B : List Bytes, A.length = n - 1 ∧ B.length = n ∧ (∀ w ∈ A, w.length = 4) ∧ (∀ w ∈ B, w.length = 4) ∧
      b = b.take 4 ++ (A.flatten ++ (B.flatten ++ b.drop (8 * n))) := by
  obtain ⟨A, hAl, hA4, hA⟩ := words_take (b.drop 4) (n - 1) (by rw [List.length_drop]; omega)
  obtain ⟨B, hBl, hB4, hB⟩ := words_take (b.drop (4 * n)) n (by rw [List.length_drop]; omega)
  refine ⟨A, B, hAl, hBl, hA4, hB4, ?_⟩
  have e1 : (b.drop 4).drop (4 * (n - 1)) = b.drop (4 * n) := by rw [List.drop_drop]; congr 1; omega
  have e2 : (b.drop (4 * n)).drop (4 * n) = b.drop (8 * n) := by rw [List.drop_drop]; congr 1; omega
  rw [hA, hB, ← e2, List.take_append_drop, ← e1, List.take_append_drop, List.take_append_drop]

theorem flatMap_le32_wordVal (A : List Bytes) (h : ∀ w ∈ A, w.length = 4) :
    (A.map Spec.wordVal).flatMap le32 = A.flatten := by
  induction A with
  | nil => rfl
  | cons w A ih =>
    simp only [List.map_cons, List.flatMap_cons, List.flatten_cons]
    rw [le32_wordVal (h w (by simp)), ih (fun u hu => h u (by simp [hu]))]

theorem map_wordVal_le32 (l : List Nat) (h : ∀ o ∈ l, o < 4294967296) : (l.map le32).map Spec.wordVal = l := by
  rw [List.map_map]
  conv => rhs; rw [← List.map_id l]
  exact List.map_congr_left fun o ho => by
    rw [Function.comp, wordVal_le32, Nat.mod_eq_of_lt (h o ho)]; rfl

theorem mapM_tagOfWord_some : ∀ (B : List Bytes) (ts : List Tag), (∀ w ∈ B, w.length = 4) →
    B.mapM Spec.tagOfWord = some ts → B = ts.map Tag.wire := by
  intro B
  induction B with
  | nil => intro ts _ h; cases h; rfl
  | cons w B ih =>
    intro ts h4 h
    rw [List.mapM_cons] at h
    obtain ⟨t, hw, h⟩ := Option.bind_eq_some_iff.mp h
    obtain ⟨ts', hB, h⟩ := Option.bind_eq_some_iff.mp h
    cases h
    rw [tagOfWord_eq_ofWire (h4 w List.mem_cons_self)] at hw
    rw [List.map_cons, wire_of_ofWire hw, ← ih ts' (fun u hu => h4 u (List.mem_cons_of_mem _ hu)) hB]

theorem mapM_tagOfWord_wire (ts : List Tag) :
    (ts.map Tag.wire).mapM Spec.tagOfWord = some ts := by
  induction ts with
  | nil => rfl
  | cons t ts ih =>
    rw [List.map_cons, List.mapM_cons, ih, tagOfWord_eq_ofWire (wire_length t), ofWire_wire]
    rfl

theorem strictlyAscending_iff (l : List Nat) :
    Spec.strictlyAscending l = true ↔ l.Pairwise (· < ·) := by
  fun_induction Spec.strictlyAscending l with
  | case1 a b rest ih =>
    simp only [Bool.and_eq_true, decide_eq_true_eq, ih, List.pairwise_cons]
    constructor
    · rintro ⟨hab, h1, h2⟩
      refine ⟨?_, h1, h2⟩
      intro x hx
      rcases List.mem_cons.mp hx with rfl | hx
      · exact hab
      · exact Nat.lt_trans hab (h1 x hx)
    · rintro ⟨h0, h1, h2⟩
      exact ⟨h0 b (by simp), h1, h2⟩
  | case2 l hl =>
    match l, hl with
    | [], _ => simp
    | [a], _ => simp
    | a :: b :: r, hl => exact absurd rfl (hl a b r)

theorem strictlyAscending_tags (ts : List Tag) :
    Spec.strictlyAscending (ts.map Spec.tagNum) = true ↔ ts.Pairwise (fun a b => a.idx < b.idx) := by
  rw [strictlyAscending_iff, List.pairwise_map]
  exact ⟨fun h => h.imp fun hab => (tag_order _ _).mpr hab, fun h => h.imp fun hab => (tag_order _ _).mp hab⟩

theorem wordVal_head {b : Bytes} (h4 : 4 ≤ b.length) :
    (Spec.words b).headD [] = b.take 4 ∧ Spec.wordVal ((Spec.words b).headD []) = rd32 b := by
  have h : (Spec.words b).headD [] = b.take 4 := by
    match b, h4 with
    | x :: y :: z :: w :: r, _ => rfl
  exact ⟨h, by rw [h, wordVal_eq_leVal (List.length_take_of_le h4), rd32]⟩

theorem decode_ill_sized {b : Bytes} (h : b.length = 0 ∨ b.length % 4 ≠ 0) : Spec.decode b = none := by
  unfold Spec.decode
  rw [if_pos h]

theorem decode_zero {b : Bytes} (h4 : 4 ≤ b.length) (hm : b.length % 4 = 0) (h0 : rd32 b = 0) :
    Spec.decode b = some ⟨[]⟩ := by
  unfold Spec.decode
  rw [if_neg (by omega)]
  simp only [(wordVal_head h4).2, h0, if_true]

theorem decode_short {b : Bytes} (h4 : 4 ≤ b.length) (hm : b.length % 4 = 0) (h0 : rd32 b ≠ 0)
    (hl : b.length < 8 * rd32 b) : Spec.decode b = none := by
  have := words_length_le b
  unfold Spec.decode
  rw [if_neg (by omega)]
  simp only [(wordVal_head h4).2, h0, if_false]
  rw [if_pos (by omega)]

theorem decode_parts {w0 : Bytes} {A B : List Bytes} {P : Bytes} (h0 : w0.length = 4)
    (hA : ∀ w ∈ A, w.length = 4) (hB : ∀ w ∈ B, w.length = 4) (hP : P.length % 4 = 0)
    (hn : Spec.wordVal w0 = A.length + 1) (hBl : B.length = A.length + 1) :
    Spec.decode (w0 ++ (A.flatten ++ (B.flatten ++ P))) =
      (B.mapM Spec.tagOfWord).bind fun tags =>
        if Spec.strictlyAscending (tags.map Spec.tagNum) = true ∧
            (A.map Spec.wordVal).all (fun o => o % 4 = 0) = true ∧
            Spec.nonDecreasing (0 :: (A.map Spec.wordVal ++ [P.length])) = true
        then some ⟨tags.zip (Spec.pieces P (0 :: (A.map Spec.wordVal ++ [P.length])))⟩ else none := by
  have hlen : (w0 ++ (A.flatten ++ B.flatten)).length = 8 * (A.length + 1) := by
    rw [List.length_append, List.length_append, h0, List.length_flatten_const 4 A hA,
      List.length_flatten_const 4 B hB, hBl]
    omega
  have hws : Spec.words (w0 ++ (A.flatten ++ (B.flatten ++ P))) = w0 :: (A ++ (B ++ Spec.words P)) := by
    rw [words_append h0, words_flatten A hA, words_flatten B hB]
  have hdrop : (w0 ++ (A.flatten ++ (B.flatten ++ P))).drop (8 * (A.length + 1)) = P := by
    rw [← List.append_assoc A.flatten, ← List.append_assoc w0]; exact List.drop_left' hlen
  have hl : (w0 ++ (A.flatten ++ (B.flatten ++ P))).length = 8 * (A.length + 1) + P.length := by
    rw [← List.append_assoc A.flatten, ← List.append_assoc w0, List.length_append, hlen]
  unfold Spec.decode
  rw [if_neg (by rw [hl]; omega)]
  simp only [hws, List.headD_cons, hn, hdrop, Nat.add_one_ne_zero, if_false, List.drop_succ_cons, List.drop_zero,
    Nat.add_sub_cancel, List.take_left' rfl, List.drop_left' rfl, List.take_left' hBl]
  rw [if_neg (by simp only [List.length_cons, List.length_append, hBl]; omega)]
  cases B.mapM Spec.tagOfWord with
  | none => rfl
  | some tags =>
    -- the definition's three nested `if ¬ c then none else ..` against one `if c₁ ∧ c₂ ∧ c₃`
    simp only [Option.bind_some, List.cons_append]
    generalize Spec.strictlyAscending _ = c1
    generalize List.all _ _ = c2
    generalize Spec.nonDecreasing _ = c3
    cases c1 <;> cases c2 <;> cases c3 <;> rfl

theorem decode_decodes {b : Bytes} {m : Msg} (h : Spec.decode b = some m) : Decodes b m := by
  by_cases hc : b.length = 0 ∨ b.length % 4 ≠ 0
  · rw [decode_ill_sized hc] at h; cases h
  have h4 : 4 ≤ b.length := by omega
  have hm : b.length % 4 = 0 := by omega
  by_cases hn0 : rd32 b = 0
  · rw [decode_zero h4 hm hn0] at h
    exact .inl ⟨h4, hm, hn0, (Option.some.inj h).symm⟩
  right
  have hl : 8 * rd32 b ≤ b.length := by
    apply Classical.byContradiction
    intro hl
    rw [decode_short h4 hm hn0 (by omega)] at h
    cases h
  -- `b` is count word ++ offset words `A` ++ tag words `B` ++ payload
  obtain ⟨A, B, hAl, hBl, hA4, hB4, hb⟩ := header_split (Nat.pos_of_ne_zero hn0) hl
  have hPl : (b.drop (8 * rd32 b)).length % 4 = 0 := by rw [List.length_drop]; omega
  have hv : Spec.wordVal (b.take 4) = A.length + 1 := by
    rw [← (wordVal_head h4).1, (wordVal_head h4).2]; omega
  rw [hb, decode_parts (List.length_take_of_le h4) hA4 hB4 hPl hv (by omega)] at h
  cases hB : B.mapM Spec.tagOfWord with
  | none => rw [hB] at h; cases h
  | some tags =>
    rw [hB, Option.bind_some] at h
    split at h
    · rename_i hconds
      obtain ⟨c1, c2, c3⟩ := hconds
      cases h
      have hBw := mapM_tagOfWord_some _ tags hB4 hB
      have := canon_of_parts (offs := A.map Spec.wordVal) (ts := tags) (P := b.drop (8 * rd32 b))
        (Nat.pos_of_ne_zero hn0) (by rw [List.length_map, hAl])
        (by rw [← hBl, hBw, List.length_map]) ((strictlyAscending_tags tags).mp c1)
        (fun o ho => by simpa using List.all_eq_true.mp c2 o ho) hPl c3
      rwa [le32_rd32_take h4, flatMap_le32_wordVal A hA4, List.flatMap_def, ← hBw, ← hb] at this
    · cases h

theorem decode_aligned {b : Bytes} {m : Msg} (h : Spec.decode b = some m) : m.Aligned :=
  (decode_decodes h).aligned

theorem decodes_decode {b : Bytes} {m : Msg} (hlen : b.length < 4294967296) (h : Decodes b m) :
    Spec.decode b = some m := by
  rcases h with ⟨h4, hm, h0, rfl⟩ | hc
  · exact decode_zero h4 hm h0
  obtain ⟨hl1, hl2, hl3⟩ := canon_length hc
  obtain ⟨hb, hol, hoff, hnd, hm⟩ := canon_parts hc
  have hmap := map_wordVal_le32 (offsetsFrom 0 m.values) fun o ho => by have := (hoff o ho).2; omega
  rw [hb, List.flatMap_def, List.flatMap_def,
    decode_parts (le32_length _) (by simp) (by simp) (by omega)
      (by rw [wordVal_le32, List.length_map, hol]; omega)
      (by rw [List.length_map, List.length_map, hol, tags_length]; omega),
    mapM_tagOfWord_wire, Option.bind_some, hmap, hm, if_pos]
  exact ⟨(strictlyAscending_tags m.tags).mpr hc.sorted,
    List.all_eq_true.mpr fun o ho => by simpa using (hoff o ho).1, hnd⟩

theorem ref_agree (b : Bytes) (m : Msg) (hlen : b.length < 2 ^ 32) :
    fromBytes b = .ok m ↔ Spec.decode b = some m :=
  ⟨fun h => decodes_decode hlen (fromBytes_decodes h), fun h => decodes_fromBytes hlen (decode_decodes h)⟩

theorem fromBytes_eq_decode (b : Bytes) (hlen : b.length < 2 ^ 32) :
    fromBytes b = Res.ofOption (Spec.decode b) := by
  cases hd : Spec.decode b with
  | some m => exact (ref_agree b m hlen).mpr hd
  | none =>
    cases hf : fromBytes b with
    | ok m => rw [(ref_agree b m hlen).mp hf] at hd; cases hd
    | err => rfl
    | panic s => exact absurd hf (fromBytes_no_panic b s)

theorem spec_decode_encode (m : Msg) (hs : m.Sorted) (ha : m.Aligned) (hsz : encodedSize m < 2 ^ 32) :
    Spec.decode (encode m) = some m :=
  decodes_decode (by rw [encode_length]; exact hsz) (decodes_encode m hs ha)

/-! ### framing -/

theorem strBytes_roughtim : strBytes "ROUGHTIM" = framing := by
  have : "ROUGHTIM" = String.ofList ['R', 'O', 'U', 'G', 'H', 'T', 'I', 'M'] := by decide
  rw [this, strBytes_ofList]
  decide

theorem framed (m : Msg) :
    encodeFramed m = strBytes "ROUGHTIM" ++ le32 (encode m).length ++ encode m ∧
    (encodeFramed m).length = 12 + (encode m).length := by
  rw [strBytes_roughtim]
  refine ⟨rfl, ?_⟩
  simp only [encodeFramed, framing, List.length_append, List.length_cons, List.length_nil, le32_length]

/-! ### display -/

theorem field_le_msgBytes (m : Msg) : ∀ f ∈ m.fields, f.2.length ≤ msgBytes m := by
  cases m with | mk fs =>
  simp only [msgBytes, Msg.values]
  induction fs with
  | nil => intro f hf; simp at hf
  | cons x xs ih =>
    intro f hf
    simp only [List.map_cons, List.sum_cons]
    rcases List.mem_cons.mp hf with rfl | hf
    · omega
    · have := ih f hf; omega

theorem msgBytes_decoded {v : Bytes} {m : Msg} (h : fromBytes v = .ok m) :
    msgBytes m + 4 ≤ v.length := by
  rcases fromBytes_decodes h with ⟨h4, _, _, rfl⟩ | hc
  · exact h4
  · have hne := hc.ne
    obtain ⟨h1, h2⟩ := payload v m h hne
    have : 0 < m.fields.length := List.length_pos_iff.mpr hne
    rw [msgBytes, ← List.length_flatten, h2, List.length_drop]; omega

theorem displayFuel_no_panic : ∀ (fuel indent : Nat) (m : Msg), msgBytes m + 2 ≤ fuel → 1 ≤ indent →
    ∀ s, displayFuel false fuel indent m ≠ .panic s := by
  intro fuel
  induction fuel with
  | zero => intro indent m h; omega
  | succ fuel ih =>
    intro indent m hf hi
    rw [displayFuel, if_neg (by omega)]
    simp only
    apply Res.bind_ne_panic
    · apply Res.foldl_ne_panic _ (fun f => f.2.length ≤ msgBytes m) _ m.fields (field_le_msgBytes m)
      · intro s; simp
      · intro acc f hfl hacc
        apply Res.bind_ne_panic hacc
        intro str _ s
        split
        · split
          · -- a nested message decoded from `f.2` carries fewer bytes than `m`, so the fuel left suffices
            rename_i nested hn
            have hb := msgBytes_decoded hn
            exact Res.bind_ne_panic (ih (indent + 1) nested (by omega) (by omega)) (by intro a _ s; simp) s
          · rename_i s' hp
            exact absurd hp (fromBytes_no_panic _ _)
          · simp
        · simp
    · intro a _ s; simp

end Rough.Lemmas
