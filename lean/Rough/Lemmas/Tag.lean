import Rough.Lemmas.Bytes
import Rough.Spec.Codec
/-
  Facts about the 18-entry tag table: wire round trip, order, bounded length of ascending lists,
  agreement of the reference decoder's word-level lookup with `Tag.ofWire`.
-/
namespace Rough.Lemmas
open Rough

@[simp] theorem wire_length (t : Tag) : t.wire.length = 4 := by cases t <;> rfl

@[simp] theorem length_flatMap_wire (l : List Tag) : (l.flatMap Tag.wire).length = 4 * l.length :=
  List.length_flatMap_const Tag.wire 4 wire_length l

theorem idx_lt (t : Tag) : t.idx < 18 := by cases t <;> decide

theorem ofWire_wire (t : Tag) : Tag.ofWire t.wire = some t := by cases t <;> decide

theorem wire_of_ofWire {w : Bytes} {t : Tag} (h : Tag.ofWire w = some t) : t.wire = w := by
  have := List.find?_some h
  simpa using this

theorem ofWire_eq_some_iff {w : Bytes} {t : Tag} : Tag.ofWire w = some t ↔ t.wire = w :=
  ⟨wire_of_ofWire, fun h => h ▸ ofWire_wire t⟩

theorem wire_inj {a b : Tag} (h : a.wire = b.wire) : a = b := by
  have := ofWire_wire a
  rw [h, ofWire_wire] at this
  exact (Option.some.inj this).symm

theorem flatMap_wire_inj {ts us : List Tag} (h : ts.flatMap Tag.wire = us.flatMap Tag.wire) : ts = us := by
  have hl : 4 * ts.length = 4 * us.length := by simpa only [length_flatMap_wire] using congrArg List.length h
  induction ts generalizing us with
  | nil => exact (List.length_eq_zero_iff.mp (by rw [List.length_nil] at hl; omega)).symm
  | cons t ts ih =>
    cases us with
    | nil => rw [List.length_cons, List.length_nil] at hl; omega
    | cons u us =>
      obtain ⟨h1, h2⟩ := List.append_inj (by simpa only [List.flatMap_cons] using h) (by simp)
      rw [wire_inj h1, ih h2 (by simp only [List.length_cons] at hl; omega)]

theorem mem_all (t : Tag) : t ∈ Tag.all := by
  have : Tag.all[t.idx]? = some t := by cases t <;> rfl
  exact List.mem_of_getElem? this

/-- the enum is declared in ascending order of the numeric wire value: a check of the 18 × 18 table -/
theorem tag_order (a b : Tag) : a.idx < b.idx ↔ Spec.tagNum a < Spec.tagNum b :=
  (by decide : ∀ a ∈ Tag.all, ∀ b ∈ Tag.all, (a.idx < b.idx ↔ Spec.tagNum a < Spec.tagNum b))
    a (mem_all a) b (mem_all b)

theorem sorted_length_le {l : List Tag} (h : l.Pairwise (fun a b => a.idx < b.idx)) :
    l.length ≤ 18 := by
  suffices ∀ k, (∀ t ∈ l, k ≤ t.idx) → l.length ≤ 18 - k from this 0 fun _ _ => Nat.zero_le _
  induction l with
  | nil => intros; simp
  | cons t l ih =>
    intro k hk
    rw [List.pairwise_cons] at h
    have h1 := ih h.2 (t.idx + 1) h.1
    have h2 := hk t (by simp)
    have h3 := idx_lt t
    simp only [List.length_cons]; omega

theorem wordVal_eq_leVal {w : Bytes} (h : w.length = 4) : Spec.wordVal w = leVal w := by
  obtain ⟨x, y, z, u, rfl⟩ := eq_four h
  simp only [Spec.wordVal, leVal_cons, leVal_nil]; omega

theorem wordVal_eq_rd32 {w : Bytes} (h : w.length = 4) : Spec.wordVal w = rd32 w := by
  rw [wordVal_eq_leVal h, rd32, List.take_of_length_le (by omega)]

theorem wordVal_inj {v w : Bytes} (hv : v.length = 4) (hw : w.length = 4)
    (h : Spec.wordVal v = Spec.wordVal w) : v = w :=
  leVal_inj (hv.trans hw.symm) (by rwa [← wordVal_eq_leVal hv, ← wordVal_eq_leVal hw])

@[simp] theorem le32_wordVal {w : Bytes} (h : w.length = 4) : le32 (Spec.wordVal w) = w := by
  rw [wordVal_eq_leVal h, le32_leVal h]

@[simp] theorem wordVal_le32 (n : Nat) : Spec.wordVal (le32 n) = n % 4294967296 := by
  rw [wordVal_eq_leVal (le32_length n), leVal_le32]

theorem tagOfWord_eq_ofWire {w : Bytes} (h : w.length = 4) : Spec.tagOfWord w = Tag.ofWire w := by
  unfold Spec.tagOfWord Tag.ofWire
  have : (fun t : Tag => decide (Spec.tagNum t = Spec.wordVal w)) = (fun t => t.wire == w) := by
    funext t
    by_cases hw : t.wire = w
    · subst hw; simp [Spec.tagNum]
    · have : Spec.tagNum t ≠ Spec.wordVal w := fun e => hw (wordVal_inj (wire_length t) h e)
      simp [hw, this]
  rw [this]

theorem tagNum_wire (t : Tag) : Spec.wordVal t.wire = Spec.tagNum t := rfl

end Rough.Lemmas
