import Rough.Model.Startup
import Rough.Model.Shutdown
/-
  Lemmas for C15 (start-up resource logic from any start state) and C19 (worker and reporter loops from any
  iteration before the flag).
-/
namespace Rough.Lemmas.Runtime
open Rough Rough.Startup Rough.Shutdown

theorem startWorker_ok (hc : Bool) (st : State) (w : Nat)
    (hp : st.mutexPoisoned = false) (hl : ∀ l ∈ st.listeners, l.2 = true) :
    let st' := startWorker hc true st w
    st'.running = st.running ++ [w] ∧ st'.panicked = st.panicked ∧ st'.mutexPoisoned = false ∧
    (∀ l ∈ st'.listeners, l.2 = true) ∧
    (hc = true → st'.listeners.map (·.1) = st.listeners.map (·.1) ++ [w]) := by
  have hall : st.listeners.all (fun l => l.2 && true) = true := by
    simp only [List.all_eq_true, Bool.and_true]
    exact hl
  cases hc with
  | false =>
    simp only [startWorker, hp]
    exact ⟨rfl, rfl, rfl, hl, nofun⟩
  | true =>
    simp only [startWorker, hp, tcpBind, hall]
    refine ⟨rfl, rfl, rfl, fun l hmem => ?_, fun _ => by simp⟩
    rcases List.mem_append.mp hmem with h | h
    · exact hl l h
    · rw [List.mem_singleton.mp h]

theorem foldl_ok (hc : Bool) (order : List Nat) (st : State)
    (hp : st.mutexPoisoned = false) (hl : ∀ l ∈ st.listeners, l.2 = true) :
    let st' := order.foldl (startWorker hc true) st
    st'.running = st.running ++ order ∧ st'.panicked = st.panicked ∧ st'.mutexPoisoned = false ∧
    (hc = true → st'.listeners.map (·.1) = st.listeners.map (·.1) ++ order) := by
  induction order generalizing st with
  | nil => simp [hp]
  | cons w rest ih =>
    obtain ⟨h1, h2, h3, h4, h5⟩ := startWorker_ok hc st w hp hl
    obtain ⟨i1, i2, i3, i4⟩ := ih (startWorker hc true st w) h3 h4
    simp only [List.foldl_cons]
    refine ⟨?_, ?_, i3, ?_⟩
    · rw [i1, h1]; simp
    · rw [i2, h2]
    · intro h; rw [i4 h, h5 h]; simp

theorem foldl_poisoned (hc reuse : Bool) (order : List Nat) (st : State) (hp : st.mutexPoisoned = true) :
    let st' := order.foldl (startWorker hc reuse) st
    st'.running = st.running ∧ st'.panicked = st.panicked ++ order ∧ st'.mutexPoisoned = true := by
  induction order generalizing st with
  | nil => simp [hp]
  | cons w rest ih =>
    have hs : startWorker hc reuse st w = { st with panicked := st.panicked ++ [w] } := by
      simp [startWorker, hp]
    obtain ⟨i1, i2, i3⟩ := ih (startWorker hc reuse st w) (by rw [hs]; exact hp)
    simp only [List.foldl_cons]
    refine ⟨?_, ?_, i3⟩
    · rw [i1, hs]
    · rw [i2, hs]; simp

theorem workerLoop_exits (B M flagAt : Nat) (arr : Nat → Nat → Nat) (fuel k q : Nat)
    (hk : k ≤ flagAt) (hf : flagAt - k < fuel) :
    workerLoop B M flagAt arr fuel k q = some flagAt := by
  induction fuel generalizing k q with
  | zero => omega
  | succ fuel ih =>
    unfold workerLoop
    simp only
    split
    · have : k = flagAt := by omega
      simp [this]
    · apply ih <;> omega

theorem reporterLoop_exits (flagAt fuel k : Nat) (hk : k ≤ flagAt) (hf : flagAt - k < fuel) :
    reporterLoop flagAt fuel k = some flagAt := by
  induction fuel generalizing k with
  | zero => omega
  | succ fuel ih =>
    unfold reporterLoop
    split
    · have : k = flagAt := by omega
      simp [this]
    · apply ih <;> omega

end Rough.Lemmas.Runtime
