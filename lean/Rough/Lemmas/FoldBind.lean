/-
  Folding a partial step over a list, `l.foldl (fun acc x => acc.bind fun c => f c x) acc`: the shape of the
  configuration loaders of the model (`Config.loadFile`, `Config.loadEnv`) and of their counterparts in the bridge.
  A refusal (`none`) is absorbing; a successful fold passed through a successful step for each entry.
-/
namespace Rough
variable {α β : Type}

theorem foldl_bind_none (f : β → α → Option β) (l : List α) :
    l.foldl (fun acc x => acc.bind fun c => f c x) none = none := by
  induction l with
  | nil => rfl
  | cons x l ih => exact ih

theorem foldl_bind_cons (f : β → α → Option β) (c : β) (x : α) (l : List α) :
    (x :: l).foldl (fun acc x => acc.bind fun c => f c x) (some c) =
      (f c x).bind fun c' => l.foldl (fun acc x => acc.bind fun c => f c x) (some c') := by
  rw [List.foldl_cons, Option.bind_some]
  cases f c x with
  | none => exact foldl_bind_none f l
  | some c' => rfl

theorem foldl_bind_congr {f g : β → α → Option β} {l : List α} (h : ∀ x ∈ l, ∀ c, f c x = g c x) (acc : Option β) :
    l.foldl (fun acc x => acc.bind fun c => f c x) acc = l.foldl (fun acc x => acc.bind fun c => g c x) acc := by
  induction l generalizing acc with
  | nil => rfl
  | cons x l ih =>
    have : (acc.bind fun c => f c x) = acc.bind fun c => g c x := by
      cases acc with
      | none => rfl
      | some c => exact h x List.mem_cons_self c
    rw [List.foldl_cons, List.foldl_cons, this]
    exact ih (fun y hy => h y (List.mem_cons_of_mem _ hy)) _

theorem foldl_bind_split {f : β → α → Option β} {c₀ c : β} {s t : List α} {a : α}
    (h : (s ++ a :: t).foldl (fun acc x => acc.bind fun c => f c x) (some c₀) = some c) :
    ∃ c₁ c₂, f c₁ a = some c₂ ∧ t.foldl (fun acc x => acc.bind fun c => f c x) (some c₂) = some c := by
  induction s generalizing c₀ with
  | nil =>
    rw [List.nil_append, foldl_bind_cons] at h
    obtain ⟨c₂, h2, h⟩ := Option.bind_eq_some_iff.mp h
    exact ⟨c₀, c₂, h2, h⟩
  | cons x s ih =>
    rw [List.cons_append, foldl_bind_cons] at h
    obtain ⟨c', -, h⟩ := Option.bind_eq_some_iff.mp h
    exact ih h

theorem foldl_bind_refused {f : β → α → Option β} {l : List α} {x : α} (hx : x ∈ l) (h : ∀ c, f c x = none) (c₀ : β) :
    l.foldl (fun acc x => acc.bind fun c => f c x) (some c₀) = none := by
  obtain ⟨s, t, rfl⟩ := List.append_of_mem hx
  cases hf : (s ++ x :: t).foldl (fun acc x => acc.bind fun c => f c x) (some c₀) with
  | none => rfl
  | some c =>
    obtain ⟨c₁, c₂, h2, _⟩ := foldl_bind_split hf
    rw [h c₁] at h2; cases h2

theorem foldl_bind_invariant {f : β → α → Option β} (P : β → Prop) {l : List α}
    (hstep : ∀ x ∈ l, ∀ c c', P c → f c x = some c' → P c') {c₀ c : β} (h₀ : P c₀)
    (h : l.foldl (fun acc x => acc.bind fun c => f c x) (some c₀) = some c) : P c := by
  induction l generalizing c₀ with
  | nil => cases h; exact h₀
  | cons x l ih =>
    rw [foldl_bind_cons] at h
    obtain ⟨c₁, hs, h⟩ := Option.bind_eq_some_iff.mp h
    exact ih (fun y hy => hstep y (List.mem_cons_of_mem _ hy)) (hstep x List.mem_cons_self c₀ c₁ h₀ hs) h

end Rough
