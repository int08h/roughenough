import Rough.Lemmas.LoopBasic
/-
  A `process_events` call as a plain run of arms.

  The `for` loop runs one arm per reported token; the backlog flag stands for an EVT_MESSAGE that `poll` did not
  report, so the service after the loop is one more arm (`callToks`, `processEvents_eq_arms`) and the flag
  `socket_serviced` disappears. What a set of arms leaves unchanged is `Frame`; a run in which a token occurs once is
  "other arms, that arm, other arms" (`runArms_at`), which gives the socket part and the health-check part of a call.
-/
namespace Rough.Lemmas.Loop
open Rough Rough.EventLoop Rough.LoopSpec Rough.ServerSpec Rough.Stats

/-- What arms for tokens in `T` leave unchanged, from `st` to `st'` with output `o`. Each arm has its own part of the
    state and of the output; the recorder is appended to by two arms and reset by the third. -/
structure Frame (T : Token → Prop) (st st' : Loop) (o : Out) : Prop where
  hcEdge : st'.hcEdge = st.hcEdge
  hcListener : st'.hcListener = st.hcListener
  batchSize : st'.srv.batchSize = st.srv.batchSize
  notMsg : ¬ T .message → st'.srv = st.srv ∧ st'.sockQ = st.sockQ ∧ st'.backlog = st.backlog ∧
    o.sent = [] ∧ o.batches = 0
  notHc : ¬ T .healthCheck → st'.hcQ = st.hcQ ∧ o.hcAnswered = []
  notStats : ¬ T .statusUpdate → st'.recd = st.recd.recordAll o.events ∧ st'.published = st.published

theorem Frame.refl (T : Token → Prop) (st : Loop) : Frame T st st {} :=
  ⟨rfl, rfl, rfl, fun _ => ⟨rfl, rfl, rfl, rfl, rfl⟩, fun _ => ⟨rfl, rfl⟩, fun _ => ⟨rfl, rfl⟩⟩

theorem Frame.mono {T T' : Token → Prop} (h : ∀ t, T t → T' t) {st st' : Loop} {o : Out} (f : Frame T st st' o) :
    Frame T' st st' o :=
  ⟨f.hcEdge, f.hcListener, f.batchSize, fun n => f.notMsg fun t => n (h _ t),
    fun n => f.notHc fun t => n (h _ t), fun n => f.notStats fun t => n (h _ t)⟩

theorem Frame.trans {T : Token → Prop} {st st1 st2 : Loop} {o1 o2 : Out} (f : Frame T st st1 o1)
    (g : Frame T st1 st2 o2) : Frame T st st2 (o1.append o2) where
  hcEdge := g.hcEdge.trans f.hcEdge
  hcListener := g.hcListener.trans f.hcListener
  batchSize := g.batchSize.trans f.batchSize
  notMsg n := by
    obtain ⟨a1, a2, a3, a5, a6⟩ := f.notMsg n
    obtain ⟨b1, b2, b3, b5, b6⟩ := g.notMsg n
    exact ⟨b1.trans a1, b2.trans a2, b3.trans a3, by rw [Out.append, a5, b5]; rfl, by rw [Out.append, a6, b6]⟩
  notHc n := by
    obtain ⟨a1, a2⟩ := f.notHc n
    obtain ⟨b1, b2⟩ := g.notHc n
    exact ⟨b1.trans a1, by rw [Out.append, a2, b2]; rfl⟩
  notStats n := by
    obtain ⟨a1, a2⟩ := f.notStats n
    obtain ⟨b1, b2⟩ := g.notStats n
    exact ⟨by rw [Out.append, recordAll_append, b1, a1], b2.trans a2⟩

theorem service_frame (E : Env) (debug : Bool) (M : Nat) (st : Loop) (ins : Nat → PassIn)
    (st' : Loop) (o : Out) (h : serviceSocket E debug M st ins = .ok (st', o)) : Frame (· = .message) st st' o := by
  rw [service_refines] at h
  obtain ⟨⟨srv', sent, ev⟩, h1, h2⟩ := Res.of_bind_eq_ok h
  cases h2
  exact ⟨rfl, rfl, (run_shape E debug _ _ _ _ _ h1).1, fun n => absurd rfl n, fun _ => ⟨rfl, rfl⟩, fun _ => ⟨rfl, rfl⟩⟩

theorem service_safe (E : Env) (hE : EnvOK E) (K : Keys) (debug : Bool) (M : Nat) (st : Loop)
    (hs : Inv E K st.srv) (hb : st.srv.batchSize ≤ 2 ^ 32) (ins : Nat → PassIn) (hi : InsSafe ins) :
    ∃ st' o, serviceSocket E debug M st ins = .ok (st', o) ∧ Inv E K st'.srv := by
  obtain ⟨s', h1, h2, _⟩ := Lemmas.ServerSpec.run_gen E hE K debug
    (plan st.srv.batchSize M st.sockQ ins).passes st.srv hs hb (plan_passes_all _ _ _ _ fun i _ => hi i)
  rw [service_refines, h1]
  exact ⟨_, _, rfl, h2⟩

theorem handleHealthCheck_eq_ok {st : Loop} {z : Loop × Out} :
    handleHealthCheck st = .ok z ↔ st.hcListener = true ∧
      z = ({ st with hcQ := [], recd := st.recd.recordAll (st.hcQ.map fun a => (⟨Kind.healthCheck, a, 0⟩ : Event)) },
           { events := st.hcQ.map fun a => (⟨Kind.healthCheck, a, 0⟩ : Event), hcAnswered := st.hcQ }) := by
  unfold handleHealthCheck
  cases st.hcListener <;> simp [eq_comm]

theorem sendClientStats_eq (st : Loop) : ∃ p r, sendClientStats st = { st with published := p, recd := r } := by
  unfold sendClientStats
  dsimp only
  split <;> exact ⟨_, _, rfl⟩

/-- one arm of the `match` in the `for` loop (the flag `socket_serviced` left out) -/
def arm (E : Env) (debug : Bool) (ins : Nat → PassIn) : Token → Loop → Res (Loop × Out)
  | .message, st => serviceSocket E debug MAX_BATCHES_PER_CALL st ins
  | .healthCheck, st => handleHealthCheck st
  | .statusUpdate, st => .ok (sendClientStats st, {})

def runArms (E : Env) (debug : Bool) (ins : Nat → PassIn) : List Token → Loop → Res (Loop × Out)
  | [], st => .ok (st, {})
  | t :: ts, st => (arm E debug ins t st).bind fun (st1, o1) =>
      (runArms E debug ins ts st1).bind fun (st2, o2) => .ok (st2, o1.append o2)

variable (E : Env) (debug : Bool) (ins : Nat → PassIn)

theorem runArms_append (a b : List Token) (st : Loop) :
    runArms E debug ins (a ++ b) st = (runArms E debug ins a st).bind fun (st1, o1) =>
      (runArms E debug ins b st1).bind fun (st2, o2) => .ok (st2, o1.append o2) := by
  induction a generalizing st with
  | nil =>
    simp only [List.nil_append, runArms, Res.bind_ok, Out.empty_append]
    exact (Res.bind_ok_right _).symm
  | cons t a ih => simp only [List.cons_append, runArms, ih, Res.bind_assoc, Res.bind_ok, Out.append_assoc]

theorem handleEvents_eq (ts : List Token) (st : Loop) (sv : Bool) :
    handleEvents E debug ins ts st sv =
      (runArms E debug ins ts st).bind fun (st', o) => .ok (st', o, sv || ts.contains .message) := by
  induction ts generalizing st sv with
  | nil => simp [handleEvents, runArms]
  | cons t ts ih => cases t <;> simp [handleEvents, runArms, arm, ih, Res.bind_assoc]

theorem arm_frame {t : Token} {st st' : Loop} {o : Out} (h : arm E debug ins t st = .ok (st', o)) :
    Frame (· = t) st st' o := by
  cases t with
  | message => exact service_frame E debug _ st ins st' o h
  | healthCheck =>
    obtain ⟨_, e⟩ := handleHealthCheck_eq_ok.mp h
    cases e
    exact ⟨rfl, rfl, rfl, fun _ => ⟨rfl, rfl, rfl, rfl, rfl⟩, fun n => absurd rfl n, fun _ => ⟨rfl, rfl⟩⟩
  | statusUpdate =>
    obtain ⟨p, r, e⟩ := sendClientStats_eq st
    cases h
    rw [e]
    exact ⟨rfl, rfl, rfl, fun _ => ⟨rfl, rfl, rfl, rfl, rfl⟩, fun _ => ⟨rfl, rfl⟩, fun n => absurd rfl n⟩

theorem runArms_frame {ts : List Token} {st st' : Loop} {o : Out} (h : runArms E debug ins ts st = .ok (st', o)) :
    Frame (· ∈ ts) st st' o := by
  induction ts generalizing st st' o with
  | nil => cases h; exact Frame.refl _ _
  | cons t ts ih =>
    obtain ⟨⟨st1, o1⟩, h1, h2⟩ := Res.of_bind_eq_ok h
    obtain ⟨⟨st2, o2⟩, h3, h4⟩ := Res.of_bind_eq_ok h2
    cases h4
    exact ((arm_frame E debug ins h1).mono fun _ e => e ▸ List.mem_cons_self ..).trans
      ((ih h3).mono fun _ m => List.mem_cons_of_mem _ m)

theorem runArms_at {t : Token} {ts : List Token} (hnd : ts.Nodup) (ht : t ∈ ts) {st st' : Loop} {o : Out}
    (h : runArms E debug ins ts st = .ok (st', o)) :
    ∃ sa oa sm om ob, Frame (· ≠ t) st sa oa ∧ arm E debug ins t sa = .ok (sm, om) ∧ Frame (· ≠ t) sm st' ob ∧
      o = oa.append (om.append ob) := by
  induction ts generalizing st st' o with
  | nil => cases ht
  | cons t' ts ih =>
    obtain ⟨hnt, hnd'⟩ := List.nodup_cons.mp hnd
    obtain ⟨⟨st1, o1⟩, h1, h2⟩ := Res.of_bind_eq_ok h
    obtain ⟨⟨st2, o2⟩, h3, h4⟩ := Res.of_bind_eq_ok h2
    cases h4
    by_cases e : t' = t
    · subst e
      exact ⟨st, {}, st1, o1, o2, Frame.refl _ _, h1,
        (runArms_frame E debug ins h3).mono fun _ m e => by subst e; exact hnt m, (Out.empty_append _).symm⟩
    · obtain ⟨sa, oa, sm, om, ob, f1, f2, f3, rfl⟩ := ih hnd' ((List.mem_cons.mp ht).resolve_left (Ne.symm e)) h3
      exact ⟨sa, o1.append oa, sm, om, ob, ((arm_frame E debug ins h1).mono fun _ e' => e' ▸ e).trans f1, f2, f3,
        (Out.append_assoc _ _ _).symm⟩

theorem runArms_socket {ts : List Token} (hnd : ts.Nodup) (hm : Token.message ∈ ts) {st st' : Loop} {o : Out}
    (h : runArms E debug ins ts st = .ok (st', o)) :
    ∃ ev, Server.run E debug st.srv (plan st.srv.batchSize 16 st.sockQ ins).passes = .ok (st'.srv, o.sent, ev) ∧
      st'.sockQ = (plan st.srv.batchSize 16 st.sockQ ins).rest ∧
      st'.backlog = (plan st.srv.batchSize 16 st.sockQ ins).full ∧
      o.batches = (plan st.srv.batchSize 16 st.sockQ ins).passes.length := by
  obtain ⟨sa, oa, sm, om, ob, fa, hsvc, fb, rfl⟩ := runArms_at E debug ins hnd hm h
  obtain ⟨a1, a2, _, a5, a6⟩ := fa.notMsg fun n => n rfl
  obtain ⟨b1, b2, b3, b5, b6⟩ := fb.notMsg fun n => n rfl
  simp only [arm, MAX_BATCHES_PER_CALL, service_refines, a1, a2] at hsvc
  obtain ⟨⟨srv', sent, ev⟩, h1, h2⟩ := Res.of_bind_eq_ok hsvc
  cases h2
  refine ⟨ev, ?_, b2, b3, ?_⟩
  · simp only [Out.append, a5, b5, List.nil_append, List.append_nil, b1, h1]
  · simp only [Out.append, a6, b6]; omega

theorem runArms_hc {ts : List Token} (hnd : ts.Nodup) (hm : Token.healthCheck ∈ ts) {st st' : Loop} {o : Out}
    (h : runArms E debug ins ts st = .ok (st', o)) : st'.hcQ = [] ∧ o.hcAnswered = st.hcQ := by
  obtain ⟨sa, oa, sm, om, ob, fa, harm, fb, rfl⟩ := runArms_at E debug ins hnd hm h
  obtain ⟨a1, a2⟩ := fa.notHc fun n => n rfl
  obtain ⟨b1, b2⟩ := fb.notHc fun n => n rfl
  obtain ⟨_, e⟩ := handleHealthCheck_eq_ok.mp harm
  cases e
  exact ⟨b1, by simp only [Out.append, a2, b2, a1, List.nil_append, List.append_nil]⟩

theorem arm_safe (hE : EnvOK E) (K : Keys) (hi : InsSafe ins) (t : Token) (st : Loop) (hs : Inv E K st.srv)
    (hb : st.srv.batchSize ≤ 2 ^ 32) (hh : t = .healthCheck → st.hcListener = true) :
    ∃ st' o, arm E debug ins t st = .ok (st', o) ∧ Inv E K st'.srv := by
  cases t with
  | message => exact service_safe E hE K debug MAX_BATCHES_PER_CALL st hs hb ins hi
  | healthCheck => exact ⟨_, _, handleHealthCheck_eq_ok.mpr ⟨hh rfl, rfl⟩, hs⟩
  | statusUpdate =>
    obtain ⟨p, r, e⟩ := sendClientStats_eq st
    exact ⟨_, _, rfl, by rw [e]; exact hs⟩

theorem runArms_safe (hE : EnvOK E) (K : Keys) (hi : InsSafe ins) (ts : List Token) (st : Loop)
    (hs : Inv E K st.srv) (hb : st.srv.batchSize ≤ 2 ^ 32) (hh : Token.healthCheck ∈ ts → st.hcListener = true) :
    ∃ st' o, runArms E debug ins ts st = .ok (st', o) ∧ Inv E K st'.srv := by
  induction ts generalizing st with
  | nil => exact ⟨st, {}, rfl, hs⟩
  | cons t ts ih =>
    obtain ⟨st1, o1, h1, hs1⟩ := arm_safe E debug ins hE K hi t st hs hb fun e => hh (e ▸ List.mem_cons_self ..)
    have f := arm_frame E debug ins h1
    obtain ⟨st2, o2, h2, hs2⟩ := ih st1 hs1 (f.batchSize ▸ hb) fun m => f.hcListener ▸ hh (List.mem_cons_of_mem _ m)
    exact ⟨st2, o1.append o2, by simp only [runArms, h1, h2, Res.bind_ok], hs2⟩

/-- the state after `poll` consumed the edges it reports -/
def lbSt0 (st : Loop) (c : CallIn) : Loop :=
  { st with sockEdge := st.sockEdge && !c.events.contains .message,
            hcEdge := st.hcEdge && !c.events.contains .healthCheck,
            timerDue := st.timerDue && !c.events.contains .statusUpdate }

@[simp] theorem lb_st0_srv (st : Loop) (c : CallIn) : (lbSt0 st c).srv = st.srv := rfl
@[simp] theorem lb_st0_backlog (st : Loop) (c : CallIn) : (lbSt0 st c).backlog = st.backlog := rfl
@[simp] theorem lb_st0_sockQ (st : Loop) (c : CallIn) : (lbSt0 st c).sockQ = st.sockQ := rfl
@[simp] theorem lb_st0_hcListener (st : Loop) (c : CallIn) : (lbSt0 st c).hcListener = st.hcListener := rfl
@[simp] theorem lb_st0_hcQ (st : Loop) (c : CallIn) : (lbSt0 st c).hcQ = st.hcQ := rfl
@[simp] theorem lb_st0_recd (st : Loop) (c : CallIn) : (lbSt0 st c).recd = st.recd := rfl
@[simp] theorem lb_st0_published (st : Loop) (c : CallIn) : (lbSt0 st c).published = st.published := rfl

theorem lb_st0_edges (st : Loop) (c : CallIn) (he : EventsOK st c) :
    (lbSt0 st c).sockEdge = false ∧ (lbSt0 st c).hcEdge = false ∧ (lbSt0 st c).timerDue = false := by
  obtain ⟨_, h1, h2, h3⟩ := he
  -- an edge that is set is reported, and `poll` clears what it reports
  refine ⟨?_, ?_, ?_⟩
  · cases h : st.sockEdge <;> simp [lbSt0, h, h1.mpr]
  · cases h : st.hcEdge <;> simp [lbSt0, h, h2.mpr]
  · cases h : st.timerDue <;> simp [lbSt0, h, h3.mpr]

/-- the rest of `processEvents` when the tokens `ts` are still to be handled and `socket_serviced` is `sv` -/
def callTail (E : Env) (debug : Bool) (ins : Nat → PassIn) (ts : List Token) (st : Loop) (sv : Bool) :
    Res (Loop × Out) :=
  (handleEvents E debug ins ts st sv).bind fun (st1, o, sv') =>
    if st1.backlog && !sv' then
      (serviceSocket E debug MAX_BATCHES_PER_CALL st1 ins).bind fun (st2, o') => .ok (st2, o.append o')
    else .ok (st1, o)

theorem processEvents_eq_tail (st : Loop) (c : CallIn) :
    processEvents E debug st c = callTail E debug c.passes c.events (lbSt0 st c) false := rfl

theorem callTail_nil (st : Loop) (sv : Bool) :
    callTail E debug ins [] st sv =
      if st.backlog && !sv then serviceSocket E debug MAX_BATCHES_PER_CALL st ins else .ok (st, {}) := by
  simp only [callTail, handleEvents, Res.bind_ok, Out.empty_append]
  split
  · exact Res.bind_ok_right _
  · rfl

theorem callTail_cons (t : Token) (ts : List Token) (st : Loop) (sv : Bool) :
    callTail E debug ins (t :: ts) st sv =
      (arm E debug ins t st).bind fun (st1, o1) =>
        (callTail E debug ins ts st1 (match t with | .message => true | _ => sv)).bind fun (st2, o2) =>
          .ok (st2, o1.append o2) := by
  cases t <;> simp [callTail, handleEvents, arm, Res.bind_assoc, Res.ite_bind, Out.append_assoc, Out.empty_append]

/-- the tokens whose arms a call runs: the events `poll` reported and, when the backlog flag is set and none of them is
    EVT_MESSAGE, one EVT_MESSAGE more — the flag stands for the readiness event that `poll` will not repeat -/
def callToks (st : Loop) (c : CallIn) : List Token :=
  c.events ++ (if st.backlog && !c.events.contains .message then [.message] else [])

theorem processEvents_eq_arms (st : Loop) (c : CallIn) :
    processEvents E debug st c = runArms E debug c.passes (callToks st c) (lbSt0 st c) := by
  rw [processEvents_eq_tail, callTail, handleEvents_eq, Res.bind_assoc, callToks, runArms_append]
  refine Res.bind_congr_ok fun ⟨st1, o⟩ h1 => ?_
  simp only [Res.bind_ok, Bool.false_or]
  cases hm : c.events.contains .message with
  | true => simp [runArms, Out.append_empty]
  | false =>
    -- no EVT_MESSAGE arm has run, so the flag is still the one the call started with
    have hb : st1.backlog = st.backlog :=
      ((runArms_frame E debug c.passes h1).notMsg (by simpa using hm)).2.2.1
    cases hbk : st.backlog <;> simp [hb, hbk, runArms, arm, Out.append_empty, Res.bind_assoc]

theorem mem_callToks {st : Loop} {c : CallIn} {t : Token} :
    t ∈ callToks st c ↔ t ∈ c.events ∨ (t = .message ∧ st.backlog = true) := by
  unfold callToks
  cases st.backlog <;> cases h : c.events.contains .message <;> simp_all

theorem callToks_nodup {st : Loop} {c : CallIn} (h : c.events.Nodup) : (callToks st c).Nodup := by
  unfold callToks
  split
  · rename_i hc
    simp only [Bool.and_eq_true, Bool.not_eq_eq_eq_not, Bool.not_true, List.contains_eq_mem,
      decide_eq_false_iff_not] at hc
    exact List.nodup_append.mpr ⟨h, List.nodup_cons.mpr ⟨List.not_mem_nil, List.nodup_nil⟩,
      fun a ha b hb e => by simp_all⟩
  · simpa using h

end Rough.Lemmas.Loop
