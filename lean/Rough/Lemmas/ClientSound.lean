import Rough.Lemmas.ClientBase
/-
  C01 soundness: what the client has checked when it accepts under a pinned key (`handleParsed_some`);
  with `receiveResponse_eq_ok` and `authentic_eq_some` this is `Props.C01.C01_sound`.
-/
namespace Rough.Lemmas.Client
open Rough Rough.Spec Rough.Spec.RT Rough.Client Rough.Merkle Rough.ServerSpec Rough.Lemmas Rough.Lemmas.SpecRT
open Rough.Lemmas.RT

theorem handleParsed_some (S : SigScheme) (H : Bytes → Bytes) (ver : Version) (pk nonce request : Bytes)
    (body : Bytes) (hbl : body.length < 2 ^ 32) (m : Msg) (hm : fromBytes body = .ok m) (o : Outcome)
    (h : handleParsed S H ver (some pk) nonce request m = .ok o) :
    ∃ f, Resp.parse body = some f ∧
      f.Core S H (protoOfVer ver) pk (Resp.leafFor (protoOfVer ver) nonce request) ∧
      S.pkValid pk = true ∧ S.pkValid f.pubk = true ∧
      o = ⟨u64le f.midp, u32le f.radi, true, u32le f.indxB⟩ := by
  unfold handleParsed at h
  obtain ⟨srepB, gsrepB, h⟩ := field_bind_ok.mp h
  obtain ⟨srep, fs, h⟩ := parse_bind_ok.mp h
  obtain ⟨certB, gcertB, h⟩ := field_bind_ok.mp h
  obtain ⟨cert, fc, h⟩ := parse_bind_ok.mp h
  obtain ⟨deleB, gdeleB, h⟩ := field_bind_ok.mp h
  obtain ⟨dele, fd, h⟩ := parse_bind_ok.mp h
  obtain ⟨midp, gmidp, h⟩ := field_bind_ok.mp h
  obtain ⟨l1, h⟩ := readU64_bind_ok.mp h
  obtain ⟨radi, gradi, h⟩ := field_bind_ok.mp h
  obtain ⟨l2, h⟩ := readU32_bind_ok.mp h
  obtain ⟨indxB, gindxB, h⟩ := field_bind_ok.mp h
  obtain ⟨l5, h⟩ := readU32_bind_ok.mp h
  obtain ⟨path, gpath, h⟩ := field_bind_ok.mp h
  obtain ⟨hash, hmk, h⟩ := Res.of_bind_eq_ok h
  obtain ⟨root, groot, h⟩ := field_bind_ok.mp h
  obtain ⟨hroot, h⟩ := panic_ite_ok.mp h
  obtain ⟨mint, gmint, h⟩ := field_bind_ok.mp h
  obtain ⟨l3, h⟩ := readU64_bind_ok.mp h
  obtain ⟨maxt, gmaxt, h⟩ := field_bind_ok.mp h
  obtain ⟨l4, h⟩ := readU64_bind_ok.mp h
  obtain ⟨hlo, h⟩ := panic_ite_ok.mp h
  obtain ⟨hhi, h⟩ := panic_ite_ok.mp h
  obtain ⟨verified, hv, h⟩ := Res.of_bind_eq_ok h
  obtain ⟨certSig, gcertSig, hv⟩ := field_bind_ok.mp hv
  obtain ⟨k1, k2, k3, hv⟩ := validateSig_bind_ok.mp hv
  obtain ⟨hdv, hv⟩ := panic_ite_ok.mp hv
  obtain ⟨pubk, gpubk, hv⟩ := field_bind_ok.mp hv
  obtain ⟨sig, gsig, hv⟩ := field_bind_ok.mp hv
  obtain ⟨k4, k5, k6, hv⟩ := validateSig_bind_ok.mp hv
  obtain ⟨hsv, hv⟩ := panic_ite_ok.mp hv
  cases hv
  cases h
  -- the nested encodings are shorter than the body, so the two decoders agree on them
  have := get_length_le hm gsrepB
  have := get_length_le hm gcertB
  have := get_length_le fc gdeleB
  have dm := (ref_agree _ _ hbl).mp hm
  have ds := (ref_agree _ _ (by omega)).mp fs
  have dc := (ref_agree _ _ (by omega)).mp fc
  have dd := (ref_agree _ _ (by omega)).mp fd
  have hmk' : rootFromPaths (mcfg H (protoOfVer ver)) ver.isIetf (u32le indxB)
      (Resp.leafFor (protoOfVer ver) nonce request) path = .ok hash := by
    cases ver <;> exact hmk
  obtain ⟨pm, hcl, -⟩ := rootFromPaths_eq_ok.mp hmk'
  refine ⟨⟨m, cert, dele, srep, sig, path, srepB, certB, indxB, certSig, deleB, pubk, mint, maxt, midp, radi, root⟩,
    Resp.parse_eq_some.mpr
      ⟨dm, gsig, gpath, gsrepB, gcertB, gindxB, dc, gcertSig, gdeleB, dd, gpubk, gmint, gmaxt, ds, gmidp, gradi, groot⟩,
    { midp8 := l1, radi4 := l2, mint8 := l3, maxt8 := l4, indx4 := l5, certSig64 := k3, sig64 := k6, pubk32 := k4,
      deleOK := ?_, srepOK := ?_, lo := Nat.le_of_not_lt hlo, hi := Nat.le_of_not_lt hhi, pathMod := pm, climb := ?_ },
    k2, k5, rfl⟩
  · rw [← Shape.delePrefix_ctx]; exact Decidable.not_not.mp hdv
  · rw [← Shape.srepPrefix_ctx]; exact Decidable.not_not.mp hsv
  · rw [hcl]; exact Decidable.not_not.mp hroot

end Rough.Lemmas.Client
