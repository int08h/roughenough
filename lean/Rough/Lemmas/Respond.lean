import Rough.Lemmas.Shapes
import Rough.Lemmas.RespVerify
/-
  The reference reply `RT.respond` for arbitrary `mint`/`maxt`, taken apart into named pieces (`RParams`): their
  lengths, what the reference decoder makes of them (`parse_body`), that an honest reply passes what every acceptor
  checks (`core`, `strict`) and binds its leaf (`core_binding`).  At the end, in the terms of `RT.respond`'s own
  arguments: the reference verifier accepts the reply (`respond_accepted`, the core of C02), and the reply's exact
  length (`respond_length`).
-/
namespace Rough.Lemmas.Client
open Rough Rough.Spec Rough.Spec.RT Rough.Spec.MT Rough.Merkle Rough.Lemmas Rough.Lemmas.SpecRT Rough.Lemmas.RT
open Rough.Lemmas.Shape

/-- the parameters of one reference reply -/
structure RParams where
  S : SigScheme
  H : Bytes → Bytes
  p : Proto
  ltSeed : Bytes
  onlSeed : Bytes
  midp : Nat
  radi : Nat
  mint : Nat
  maxt : Nat
  leaves : List Bytes
  i : Nat
  nonce : Bytes

namespace RParams
variable (r : RParams)

def root : Bytes := T.hash (mcfg r.H r.p) (treeOf r.leaves)
def path : Bytes := (pathOf (mcfg r.H r.p) r.leaves r.i).flatten
def deleMsg : Msg := deleM (r.S.pk r.onlSeed) (le64 r.mint) (le64 r.maxt)
def dele : Bytes := encode r.deleMsg
def certSig : Bytes := r.S.sign r.ltSeed (deleCtx r.p ++ r.dele)
def certMsg : Msg := certM r.certSig r.dele
def cert : Bytes := encode r.certMsg
def srepMsg : Msg := srepM r.p (le32 r.radi) (le64 r.midp) r.root
def srep : Bytes := encode r.srepMsg
def sig : Bytes := r.S.sign r.onlSeed (srepCtx r.p ++ r.srep)
def respMsg : Msg := respM r.sig r.nonce r.path r.srep r.cert (le32 r.i)
def body : Bytes := encode r.respMsg
def response : Bytes :=
  match r.p with
  | .classic => r.body
  | .draft13 => magic ++ le32 r.body.length ++ r.body

/-- the side conditions under which the pieces decode -/
structure OK : Prop where
  hH : ∀ x, (r.H x).length = 64
  hsig : ∀ seed m, (r.S.sign seed m).length = 64
  hpk : ∀ seed, (r.S.pk seed).length = 32
  hi : r.i < r.leaves.length
  hn : r.leaves.length ≤ 2 ^ 32
  hnonce : r.nonce.length % 4 = 0
  hnl : r.nonce.length < 2 ^ 16

theorem respond_eq :
    RT.respond r.S r.H r.p r.ltSeed r.onlSeed r.midp r.radi r.mint r.maxt r.leaves r.i r.nonce = r.response := by
  cases r with | mk S H p ltSeed onlSeed midp radi mint maxt leaves i nonce =>
  cases p <;> rfl

variable {r}

/-! Lengths need only the length assumptions on the primitives and `i` in range; decoding needs all of `OK`. -/

theorem root_length (hH : ∀ x, (r.H x).length = 64) : r.root.length = nodeWidth r.p :=
  Lemmas.Merkle.hash_length (mcfg r.H r.p) (mcfg_hashLen r.H hH r.p) (treeOf r.leaves)

theorem path_length (hH : ∀ x, (r.H x).length = 64) (hi : r.i < r.leaves.length) :
    r.path.length = nodeWidth r.p * depth r.leaves.length := by
  rw [path, List.length_flatten_const _ _ (Lemmas.Merkle.pathOf_mem_length _ (mcfg_hashLen r.H hH r.p) _ _),
    Lemmas.Merkle.pathOf_length _ _ _ hi, mcfg_N]

theorem path_chunks (h : r.OK) : chunks (nodeWidth r.p) r.path = pathOf (mcfg r.H r.p) r.leaves r.i :=
  Lemmas.chunks_flatten_of _ (nodeWidth_pos r.p) _ (Lemmas.Merkle.pathOf_mem_length _ (mcfg_hashLen r.H h.hH r.p) _ _)

theorem depth_le (h : r.OK) : depth r.leaves.length ≤ 32 := Lemmas.Merkle.depth_le_of_le_pow 32 _ h.hn

theorem i_lt (h : r.OK) : r.i < 2 ^ 32 := Nat.lt_of_lt_of_le h.hi h.hn

theorem dele_length (hpk : ∀ seed, (r.S.pk seed).length = 32) : r.dele.length = 72 := by
  rw [dele, encode_length, deleMsg, deleM_size, hpk]; rfl

theorem cert_length (hsig : ∀ seed m, (r.S.sign seed m).length = 64) (hpk : ∀ seed, (r.S.pk seed).length = 32) :
    r.cert.length = 152 := by
  rw [cert, encode_length, certMsg, certM_size, certSig, hsig, dele_length hpk]

theorem srep_length (hH : ∀ x, (r.H x).length = 64) :
    r.srep.length = (match r.p with | .classic => 100 | .draft13 => 96) := by
  rw [srep, encode_length, srepMsg, srepM_size, root_length hH, le32_length, le64_length]
  cases r.p <;> rfl

theorem srep_length_le (hH : ∀ x, (r.H x).length = 64) : r.srep.length ≤ 100 ∧ r.srep.length % 4 = 0 := by
  rw [srep_length hH]
  cases r.p <;> decide

theorem body_size (hH : ∀ x, (r.H x).length = 64) (hsig : ∀ seed m, (r.S.sign seed m).length = 64)
    (hpk : ∀ seed, (r.S.pk seed).length = 32) (hi : r.i < r.leaves.length) :
    r.body.length = 268 + r.nonce.length + nodeWidth r.p * depth r.leaves.length + r.srep.length := by
  rw [body, encode_length, respMsg, respM_size, sig, hsig, path_length hH hi, cert_length hsig hpk, le32_length]
  omega

theorem response_length (hH : ∀ x, (r.H x).length = 64) (hsig : ∀ seed m, (r.S.sign seed m).length = 64)
    (hpk : ∀ seed, (r.S.pk seed).length = 32) (hi : r.i < r.leaves.length) :
    r.response.length =
      match r.p with
      | .classic => 368 + r.nonce.length + 64 * depth r.leaves.length
      | .draft13 => 376 + r.nonce.length + 32 * depth r.leaves.length := by
  have hb := body_size hH hsig hpk hi
  rw [srep_length hH] at hb
  rw [response]
  cases hp : r.p <;> rw [hp] at hb <;>
    simp only [List.length_append, le32_length, magic, List.length_cons, List.length_nil, hb, nodeWidth] <;> omega

theorem body_lt (h : r.OK) : r.body.length < 2 ^ 32 := by
  have h1 := body_size h.hH h.hsig h.hpk h.hi
  have h2 := (srep_length_le h.hH).1
  have h3 : nodeWidth r.p * depth r.leaves.length ≤ 64 * 32 := Nat.mul_le_mul (nodeWidth_le r.p).1 (depth_le h)
  have := h.hnl
  omega

theorem dele_decode (h : r.OK) : decode r.dele = some r.deleMsg :=
  deleM_decode _ _ _ (by rw [h.hpk]) (by simp) (by simp) (by rw [h.hpk]; simp)

theorem cert_decode (h : r.OK) : decode r.cert = some r.certMsg :=
  certM_decode _ _ (by rw [certSig, h.hsig]) (by rw [dele_length h.hpk])
    (by rw [certSig, h.hsig, dele_length h.hpk]; decide)

theorem srep_decode (h : r.OK) : decode r.srep = some r.srepMsg := by
  have hw := nodeWidth_le r.p
  have hh := srepHdr_le r.p
  exact srepM_decode _ _ _ _ (by simp) (by simp) (by rw [root_length h.hH]; exact hw.2)
    (by rw [root_length h.hH, le32_length, le64_length]; omega)

theorem body_decode (h : r.OK) : decode r.body = some r.respMsg := by
  have hl := body_lt h
  rw [body, encode_length, respMsg, respM_size] at hl
  refine respM_decode _ _ _ _ _ _ (by rw [sig, h.hsig]) h.hnonce ?_ (srep_length_le h.hH).2
    (by rw [cert_length h.hsig h.hpk]) (by rw [le32_length]) hl
  rw [path_length h.hH h.hi, Nat.mul_mod, (nodeWidth_le r.p).2, Nat.zero_mul]

/-- what the acceptors read out of the reference reply -/
def resp (r : RParams) : Resp :=
  ⟨r.respMsg, r.certMsg, r.deleMsg, r.srepMsg, r.sig, r.path, r.srep, r.cert, le32 r.i, r.certSig, r.dele,
    r.S.pk r.onlSeed, le64 r.mint, le64 r.maxt, le64 r.midp, le32 r.radi, r.root⟩

theorem parse_body (h : r.OK) : Resp.parse r.body = some r.resp :=
  Resp.parse_eq_some.mpr ⟨body_decode h, rfl, rfl, rfl, rfl, rfl, cert_decode h, rfl, rfl, dele_decode h, rfl, rfl, rfl,
    srep_decode h, (srepM_gets ..).2.1, (srepM_gets ..).1, (srepM_gets ..).2.2⟩

theorem vframe_response (h : r.OK) : vframe r.p r.response = some r.body := by
  cases hp : r.p with
  | classic => simp only [response, hp, vframe]
  | draft13 =>
    simp only [response, hp, vframe]
    exact unframe_frame r.body (body_lt h)

theorem core (h : r.OK) (hS : r.S.Correct) (hlt : r.ltSeed.length = 32) (hon : r.onlSeed.length = 32)
    (hlo : r.mint ≤ r.midp) (hhi : r.midp ≤ r.maxt) (hma : r.maxt < 2 ^ 64) {leaf : Bytes}
    (hleaf : r.leaves[r.i]'h.hi = leaf) : r.resp.Core r.S r.H r.p (r.S.pk r.ltSeed) leaf where
  midp8 := Nat.le_refl 8
  radi4 := Nat.le_refl 4
  mint8 := Nat.le_refl 8
  maxt8 := Nat.le_refl 8
  indx4 := Nat.le_refl 4
  certSig64 := h.hsig _ _
  sig64 := h.hsig _ _
  pubk32 := h.hpk _
  deleOK := hS _ _ hlt
  srepOK := hS _ _ hon
  lo := by
    show u64le (le64 r.mint) ≤ u64le (le64 r.midp)
    rw [u64le_le64 _ (by omega), u64le_le64 _ (by omega)]; exact hlo
  hi := by
    show u64le (le64 r.midp) ≤ u64le (le64 r.maxt)
    rw [u64le_le64 _ (by omega), u64le_le64 _ hma]; exact hhi
  pathMod := by rw [show r.resp.path = r.path from rfl, path_length h.hH h.hi]; exact Nat.mul_mod_right ..
  climb := by
    show climb r.H r.p _ (u32le (le32 r.i)) (chunks (nodeWidth r.p) r.path) = r.root
    rw [u32le_le32 _ (i_lt h), path_chunks h, climb_eq_climbChunks]
    exact hleaf ▸ Lemmas.Merkle.climbChunks_pathOf (mcfg r.H r.p) r.leaves r.i h.hi

theorem strict (h : r.OK) : r.resp.Strict r.p r.nonce where
  echo := show Resp.EchoOK r.p r.nonce (some r.nonce) from rfl
  indx4 := rfl
  mint8 := rfl
  maxt8 := rfl
  radi4 := rfl
  midp8 := rfl
  rootN := root_length h.hH
  vers := by
    intro hp
    have : r.resp.srep = srepM .draft13 (le32 r.radi) (le64 r.midp) r.root := by
      show r.srepMsg = _
      rw [srepMsg, hp]
    rw [this]
    exact ⟨rfl, _, rfl, List.contains_iff_mem.mpr ver13_mem, rfl⟩
  depth := by
    show (chunks (nodeWidth r.p) r.path).length ≤ 32
    rw [path_chunks h, Lemmas.Merkle.pathOf_length _ _ _ h.hi]; exact depth_le h
  index := by
    show u32le (le32 r.i) < 2 ^ (chunks (nodeWidth r.p) r.path).length
    rw [u32le_le32 _ (i_lt h), path_chunks h, Lemmas.Merkle.pathOf_length _ _ _ h.hi]
    exact Nat.lt_of_lt_of_le h.hi (Lemmas.Merkle.le_two_pow_depth _)

/-- stated on `aframe`, the weaker of the two frame checks (`aframe_of_vframe`), so that it serves both acceptors -/
theorem core_binding (h : r.OK) {S : SigScheme} {ltpk leaf body : Bytes} {f : Resp}
    (hb : aframe r.p r.response = some body) (hf : Resp.parse body = some f) (c : f.Core S r.H r.p ltpk leaf) :
    MT.Broken (mcfg r.H r.p) ∨ leaf = r.leaves[r.i]'h.hi := by
  cases (aframe_of_vframe (vframe_response h)).1.symm.trans hb
  cases (parse_body h).symm.trans hf
  have hclimb := c.climb
  rw [show u32le r.resp.indxB = r.i from u32le_le32 _ (i_lt h), climb_eq_climbChunks] at hclimb
  exact (Lemmas.Merkle.binding_climb (mcfg r.H r.p) (mcfg_hashLen r.H h.hH r.p) (nodeWidth_pos r.p) r.leaves r.i h.hi
    leaf r.path c.pathMod hclimb).imp_right And.left

end RParams

end Rough.Lemmas.Client

namespace Rough.Lemmas.SpecRT
open Rough Rough.Spec Rough.Spec.RT Rough.Lemmas.RT Rough.Lemmas.Client

theorem respond_length (S : SigScheme) (H : Bytes → Bytes) (hH : ∀ x, (H x).length = 64)
    (hsig : ∀ seed m, (S.sign seed m).length = 64) (hpk : ∀ seed, (S.pk seed).length = 32)
    (p : RT.Proto) (ltSeed onlSeed : Bytes) (midp radi mint maxt : Nat) (leaves : List Bytes) (i : Nat)
    (hi : i < leaves.length) (nonce : Bytes) :
    (RT.respond S H p ltSeed onlSeed midp radi mint maxt leaves i nonce).length =
      match p with
      | .classic => 368 + nonce.length + 64 * MT.depth leaves.length
      | .draft13 => 376 + nonce.length + 32 * MT.depth leaves.length :=
  (congrArg List.length (RParams.respond_eq ⟨S, H, p, ltSeed, onlSeed, midp, radi, mint, maxt, leaves, i, nonce⟩)).trans
    (RParams.response_length hH hsig hpk hi)

theorem respond_accepted (S : SigScheme) (hS : S.Correct) (H : Bytes → Bytes) (hH : ∀ x, (H x).length = 64)
    (hsig : ∀ seed m, (S.sign seed m).length = 64) (hpk : ∀ seed, (S.pk seed).length = 32)
    (p : RT.Proto) (ltSeed onlSeed : Bytes) (hlt : ltSeed.length = 32) (hon : onlSeed.length = 32)
    (midp radi : Nat) (hm : midp < 2 ^ 64) (hr : radi < 2 ^ 32)
    (leaves : List Bytes) (i : Nat) (hi : i < leaves.length) (hn : leaves.length ≤ 2 ^ 32)
    (request nonce : Bytes) (hnonce : nonce.length % 4 = 0) (hnl : nonce.length < 2 ^ 16)
    (hleaf : leaves[i] = Resp.leafFor p nonce request) :
    RT.verifyResponse S H p (S.pk ltSeed) request nonce
      (RT.respond S H p ltSeed onlSeed midp radi 0 (2 ^ 64 - 1) leaves i nonce) = .ok (midp, radi) := by
  let r : RParams := ⟨S, H, p, ltSeed, onlSeed, midp, radi, 0, 2 ^ 64 - 1, leaves, i, nonce⟩
  have hok : r.OK := ⟨hH, hsig, hpk, hi, hn, hnonce, hnl⟩
  have hc := RParams.core hok hS hlt hon (Nat.zero_le _) (by show midp ≤ 2 ^ 64 - 1; omega)
    (by show 2 ^ 64 - 1 < 2 ^ 64; omega) hleaf
  rw [r.respond_eq, verifyResponse_of (RParams.vframe_response hok) (RParams.parse_body hok) hc (RParams.strict hok)]
  show Except.ok (u64le (le64 midp), u32le (le32 radi)) = _
  rw [u64le_le64 midp hm, u32le_le32 radi hr]

end Rough.Lemmas.SpecRT
