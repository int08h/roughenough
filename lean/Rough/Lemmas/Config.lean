import Rough.Lemmas.ConfigDigits
import Rough.Lemmas.FoldBind
/-
  Lemmas for C16 about the configuration loader model (Model/Config.lean): a load is a fold of one step per entry
  (`run`, uniformly over both sources); a step for one key leaves every other setting alone, and the step for an
  integer key written in decimal has a closed form (`fileSet_showInt`, `envSet_showInt`).
-/
namespace Rough.Lemmas.Config
open Rough Rough.Config

/-- one entry processed by the loader of `src` -/
def stepOne (src : Source) (c : Cfg) (kv : String × String) : Option Cfg :=
  match src with
  | .file => fileSet c kv.1 kv.2
  | .env => envSet c kv.1 (unquote kv.2)

def run (src : Source) (acc : Option Cfg) (entries : List (String × String)) : Option Cfg :=
  entries.foldl (fun acc kv => acc.bind fun c => stepOne src c kv) acc

theorem run_nil (src : Source) (acc : Option Cfg) : run src acc [] = acc := rfl

theorem start_some (fs : FsFacts) (d : Cfg) (src : Source) (entries : List (String × String)) (c : Cfg)
    (h : start fs d src entries = some c) : run src (some d) entries = some c ∧ isValid fs c = true := by
  obtain ⟨c', hl, hv⟩ := Option.bind_eq_some_iff.mp h
  split at hv
  · rename_i hval
    cases hv
    refine ⟨?_, hval⟩
    cases src with
    | file =>
      simp only [loadFile] at hl
      split at hl
      · cases hl
      · exact hl
    | env => exact hl
  · cases hv

theorem start_refused (fs : FsFacts) (d : Cfg) (src : Source) (entries : List (String × String))
    (kv : String × String) (hmem : kv ∈ entries) (h : ∀ c, stepOne src c kv = none) :
    start fs d src entries = none := by
  cases hs : start fs d src entries with
  | none => rfl
  | some c =>
    have hrun := (start_some fs d src entries c hs).1
    rw [run, foldl_bind_refused hmem h] at hrun
    cases hrun

/-- only for the settings the C16 theorems follow: the six integer settings, `interface` and `seed` -/
theorem stepOne_frame (src : Source) (c c' : Cfg) (key val : String) (h : stepOne src c (key, val) = some c') :
    (key ≠ "port" → c'.port = c.port) ∧ (key ≠ "batch_size" → c'.batchSize = c.batchSize) ∧
    (key ≠ "fault_percentage" → c'.faultPct = c.faultPct) ∧ (key ≠ "num_workers" → c'.numWorkers = c.numWorkers) ∧
    (key ≠ "status_interval" → c'.statusInterval = c.statusInterval) ∧
    (key ≠ "health_check_port" → c'.hcPort = c.hcPort) ∧
    (key ≠ "interface" → c'.interface = c.interface) ∧ (key ≠ "seed" → c'.seed = c.seed) := by
  revert h
  cases src with
  | file =>
    show fileSet c key val = some c' → _
    -- In every arm the key is a literal and `c'` is `c` with one field set (under a `map` when the value is parsed):
    -- a conjunct holds by `rfl`, or its hypothesis says that the key differs from itself.  An unknown key is refused.
    fun_cases fileSet c key val <;> intro h
    case case12 => cases h
    all_goals
      first | obtain ⟨v, -, rfl⟩ := Option.map_eq_some_iff.mp h | cases h
      and_intros <;> intro hk <;> first | exact rfl | exact absurd rfl hk
  | env =>
    show envSet c key (unquote val) = some c' → _
    -- the same; an unknown variable leaves `c` as it is
    fun_cases envSet c key (unquote val) <;> intro h
    all_goals
      first | obtain ⟨v, -, rfl⟩ := Option.map_eq_some_iff.mp h | cases h
      and_intros <;> intro hk <;> first | exact rfl | exact absurd rfl hk

theorem stepOne_get_other (src : Source) (c c' : Cfg) (kv : String × String) (k : IntKey)
    (h : stepOne src c kv = some c') (hne : kv.1 ≠ k.name) : c'.get k = c.get k := by
  obtain ⟨h1, h2, h3, h4, h5, h6, -, -⟩ := stepOne_frame src c c' kv.1 kv.2 h
  cases k with
  | port => exact congrArg some (h1 hne)
  | batchSize => exact congrArg some (h2 hne)
  | faultPct => exact congrArg some (h3 hne)
  | numWorkers => exact congrArg some (h4 hne)
  | statusInterval => exact congrArg some (h5 hne)
  | hcPort => exact h6 hne

/-- width of the integer type behind each key, per source: `u16`, `u8`, `u8`, `usize`, `u16` for the port, batch size,
    fault percentage, worker count and health-check port in both loaders; the status interval is read as `u64` from the
    file (`Duration::from_secs`) and as `u16` from the environment -/
def bitsOf : Source → IntKey → Nat
  | _, .port => 16 | _, .batchSize => 8 | _, .faultPct => 8 | _, .numWorkers => 64
  | .file, .statusInterval => 64 | .env, .statusInterval => 16 | _, .hcPort => 16

def Cfg.setInt (c : Cfg) : IntKey → Nat → Cfg
  | .port, v => { c with port := v } | .batchSize, v => { c with batchSize := v }
  | .faultPct, v => { c with faultPct := v } | .numWorkers, v => { c with numWorkers := v }
  | .statusInterval, v => { c with statusInterval := v } | .hcPort, v => { c with hcPort := some v }

theorem get_setInt (c : Cfg) (k : IntKey) (v : Nat) : (Cfg.setInt c k v).get k = some v := by
  cases k <;> rfl

theorem fileSet_int (c : Cfg) (k : IntKey) (val : String) :
    fileSet c k.name val = ((yamlInt val).bind (narrow (bitsOf .file k))).map (Cfg.setInt c k) := by
  cases k <;> rw [IntKey.name, fileSet] <;> rfl

theorem envSet_int (c : Cfg) (k : IntKey) (val : String) :
    envSet c k.name val = (parseUnsigned (bitsOf .env k) val).map (Cfg.setInt c k) := by
  cases k <;> rw [IntKey.name, envSet] <;> rfl

/-- `v < 2 ^ 63`: YAML integers are i64, and the checked narrowing to the setting's type comes after -/
theorem fileSet_showInt (c : Cfg) (k : IntKey) (v : Int) :
    fileSet c k.name (showInt v) =
      if 0 ≤ v ∧ v < 2 ^ bitsOf .file k ∧ v < 2 ^ 63 then some (Cfg.setInt c k v.toNat) else none := by
  rw [fileSet_int, yaml_narrow_showInt]
  split <;> rfl

theorem envSet_showInt (c : Cfg) (k : IntKey) (v : Int) :
    envSet c k.name (showInt v) = if 0 ≤ v ∧ v < 2 ^ bitsOf .env k then some (Cfg.setInt c k v.toNat) else none := by
  rw [envSet_int, parseUnsigned_showInt]
  split <;> rfl

theorem written_step (src : Source) (c₀ c₁ : Cfg) (k : IntKey) (v : Int)
    (h : stepOne src c₀ (k.name, showInt v) = some c₁) :
    0 ≤ v ∧ v < 2 ^ bitsOf src k ∧ c₁.get k = some v.toNat := by
  cases src with
  | file =>
    rw [stepOne, fileSet_showInt] at h
    split at h
    · rename_i hc; cases h; exact ⟨hc.1, hc.2.1, get_setInt _ _ _⟩
    · cases h
  | env =>
    rw [stepOne, unquote_showInt, envSet_showInt] at h
    split at h
    · rename_i hc; cases h; exact ⟨hc.1, hc.2, get_setInt _ _ _⟩
    · cases h

theorem effective_is_written_strong (fs : FsFacts) (d : Cfg) (src : Source) (entries : List (String × String))
    (hnd : (entries.map (·.1)).Nodup) (k : IntKey) (v : Int) (hmem : (k.name, showInt v) ∈ entries)
    (c : Cfg) (h : start fs d src entries = some c) :
    c.get k = some v.toNat ∧ 0 ≤ v ∧ v < 2 ^ bitsOf src k ∧ isValid fs c = true := by
  obtain ⟨hrun, hval⟩ := start_some fs d src entries c h
  obtain ⟨s, t, rfl⟩ := List.append_of_mem hmem
  obtain ⟨c₁, c₂, hstep, hrest⟩ := foldl_bind_split hrun
  obtain ⟨h0, hb, hget⟩ := written_step src c₁ c₂ k v hstep
  -- the key is written once, so no later entry touches it
  have hlater : ∀ kv ∈ t, kv.1 ≠ k.name := by
    intro kv hkv heq
    simp only [List.map_append, List.map_cons] at hnd
    exact (List.nodup_cons.mp (List.nodup_append.mp hnd).2.1).1 (heq ▸ List.mem_map_of_mem hkv)
  exact ⟨foldl_bind_invariant (fun c => c.get k = some v.toNat)
    (fun kv hkv c c' hP hs => (stepOne_get_other src c c' kv k hs (hlater kv hkv)).trans hP) hget hrest, h0, hb, hval⟩

theorem isValid_facts (fs : FsFacts) (c : Cfg) (h : isValid fs c = true) :
    c.port ≠ 0 ∧ c.interface ≠ "" ∧ c.seed ≠ [] ∧ (c.kmsPlain = true → c.seed.length = 32) ∧
    1 ≤ c.batchSize ∧ c.batchSize ≤ 64 ∧ c.faultPct ≤ 50 ∧ c.numWorkers ≠ 0 := by
  simp only [isValid, decide_eq_true_eq] at h
  obtain ⟨h1, h2, h3, h4, ⟨h5, h6⟩, h7, h8, _⟩ := h
  refine ⟨h1, h2, h3, ?_, h5, h6, h7, h8⟩
  intro hk; rw [if_pos hk] at h4; exact h4

theorem fileSet_unknown (c : Cfg) (key val : String) (hunk : key ∉ knownKeys) : fileSet c key val = none := by
  -- `knownKeys` lists the literals of `fileSet`'s match: the key differs from each, which selects the last arm
  simp only [knownKeys, List.mem_cons, List.not_mem_nil, or_false, not_or] at hunk
  obtain ⟨h1, h2, h3, h4, h5, h6, h7, h8, h9, h10, h11⟩ := hunk
  rw [fileSet] <;> assumption

theorem yamlStr_plain (txt : String) (hq : txt.toList.head? ≠ some '"') (s : String)
    (h : yamlStr txt = some s) : s = txt := by
  unfold yamlStr at h
  dsimp only at h
  split at h
  · rename_i rest heq
    rw [heq] at hq
    exact absurd rfl hq
  · -- each of the three tests refuses or passes the text on
    simp only [Option.ite_none_left_eq_some] at h
    exact (Option.some.inj h.2.2.2).symm

theorem bad_seed_refused (fs : FsFacts) (d : Cfg) (src : Source) (entries : List (String × String)) (txt : String)
    (hmem : ("seed", txt) ∈ entries) (hq : txt.toList.head? ≠ some '"') (hbad : hexDecode txt = none) :
    start fs d src entries = none := by
  refine start_refused fs d src entries _ hmem fun c => ?_
  cases src with
  | file =>
    -- the text the file loader decodes is `txt` itself, if the scalar has a text at all
    have ht : (if (yamlInt txt).isNone ∧ isFloat txt.toList then some txt else yamlStr txt).bind hexDecode = none := by
      split
      · exact hbad
      · cases hy : yamlStr txt with
        | none => rfl
        | some s => rw [yamlStr_plain txt hq s hy]; exact hbad
    show fileSet c "seed" txt = none
    rw [fileSet, ht]
    rfl
  | env =>
    show envSet c "seed" (unquote txt) = none
    rw [envSet, unquote_plain txt hq, hbad]
    rfl

end Rough.Lemmas.Config
