import Rough.Lemmas.ServerSpec
import Rough.Lemmas.Respond
/-
  The server-level properties C02 (`honest`), C07 (`sa_batch_no_amplification`) and C18 (`workers`): `pass_spec` /
  `run_spec` (the model sends exactly `expectedSent`) combined with `respond_accepted` / `respond_length` (the reference
  verifier accepts the reference responder, whose reply has a known length).
-/
namespace Rough.Lemmas.ServerAssembly
open Rough Rough.ServerSpec Rough.Spec
open Rough.Lemmas.ServerSpec

theorem sa_midpVal_lt (ver : Version) (now : Nat × Nat) (h : clockOK now) : midpVal ver now < 2 ^ 64 := by
  have hm := Lemmas.Keys.midpOf_eq_ok.mp (ss_midpOf_ok ver now h)
  obtain ⟨h1, h2⟩ := h
  cases ver <;> simp only at hm <;> omega

theorem sa_radiOf_lt (ver : Version) : radiOf ver < 2 ^ 32 := by
  cases ver <;> decide

theorem sa_onl_len (K : Keys) (hK : K.OK) (ver : Version) : (onlOf K ver).length = 32 := by
  obtain ⟨_, h2, h3⟩ := hK
  cases ver
  · exact h3
  · exact h2

theorem sa_accepted_le (srv : Bytes) (ver : Version) (chunk : List Datagram) (b : Nat) :
    (accepted srv ver (chunk.take b)).length ≤ b := by
  have h1 := ss_accepted_length srv ver (chunk.take b)
  rw [List.length_take] at h1
  omega

theorem sa_accepted_getElem (srv : Bytes) (ver : Version) (chunk : List Datagram) (i : Nat)
    (h : i < (accepted srv ver chunk).length) :
    (accepted srv ver chunk)[i].1 ∈ chunk ∧
    nonceFromRequest (accepted srv ver chunk)[i].1.bytes srv = .ok ((accepted srv ver chunk)[i].2, ver) ∧
    1024 ≤ (accepted srv ver chunk)[i].1.bytes.length ∧
    ((accepted srv ver chunk)[i].2.length = 64 ∨ (accepted srv ver chunk)[i].2.length = 32) := by
  have hmem : ((accepted srv ver chunk)[i].1, (accepted srv ver chunk)[i].2) ∈ accepted srv ver chunk :=
    List.getElem_mem h
  obtain ⟨h1, h2⟩ := ss_mem_accepted.mp hmem
  exact ⟨h1, h2, (Lemmas.Request.only_wellformed _ _ _ _ h2).1, ss_nonce_len h2⟩

theorem sa_reply_verifies (E : Env) (hE : EnvOK E) (hS : E.S.Correct) (K : Keys) (hK : K.OK)
    (ver : Version) (now : Nat × Nat) (hnow : clockOK now) (reqs : List (Datagram × Bytes))
    (hlen : reqs.length ≤ 2 ^ 32) (i : Nat) (h : i < reqs.length)
    (hn : reqs[i].2.length = 64 ∨ reqs[i].2.length = 32) :
    RT.verifyResponse E.S E.H (protoOfVer ver) (E.S.pk K.seed) reqs[i].1.bytes reqs[i].2
      (RT.respond E.S E.H (protoOfVer ver) K.seed (onlOf K ver) (midpVal ver now) (radiOf ver) 0 (2 ^ 64 - 1)
        (reqs.map (leafOf ver)) i reqs[i].2) = .ok (midpVal ver now, radiOf ver) := by
  have hi : i < (reqs.map (leafOf ver)).length := by rw [List.length_map]; exact h
  exact Lemmas.SpecRT.respond_accepted E.S hS E.H hE.hashLen hE.sigLen hE.pkLen (protoOfVer ver) K.seed
    (onlOf K ver) hK.1 (sa_onl_len K hK ver) (midpVal ver now) (radiOf ver) (sa_midpVal_lt ver now hnow)
    (sa_radiOf_lt ver) (reqs.map (leafOf ver)) i hi (by rw [List.length_map]; exact hlen)
    reqs[i].1.bytes reqs[i].2 (by omega) (by omega) (by rw [List.getElem_map]; cases ver <;> rfl)

theorem sa_reply_length (E : Env) (hE : EnvOK E) (K : Keys) (ver : Version) (midp : Nat)
    (reqs : List (Datagram × Bytes)) (hlen : reqs.length ≤ 255) (i : Nat) (h : i < reqs.length)
    (hn : reqs[i].2.length = 64 ∨ reqs[i].2.length = 32) :
    (RT.respond E.S E.H (protoOfVer ver) K.seed (onlOf K ver) midp (radiOf ver) 0 (2 ^ 64 - 1)
        (reqs.map (leafOf ver)) i reqs[i].2).length ≤ 944 := by
  have hi : i < (reqs.map (leafOf ver)).length := by rw [List.length_map]; exact h
  have hd := Lemmas.Merkle.depth_le_of_le_pow 8 (reqs.map (leafOf ver)).length (by rw [List.length_map]; omega)
  have hl := Lemmas.SpecRT.respond_length E.S E.H hE.hashLen hE.sigLen hE.pkLen (protoOfVer ver) K.seed
    (onlOf K ver) midp (radiOf ver) 0 (2 ^ 64 - 1) (reqs.map (leafOf ver)) i hi reqs[i].2
  rw [hl]
  -- the longest is the classic reply to a 64-byte nonce at depth 8: 368 + 64 + 64 * 8 = 944
  cases protoOfVer ver <;> simp only <;> omega

/-- the clock reading used for protocol `ver` in a pass -/
def nowOf (p : Server.Pass) : Version → Nat × Nat
  | .ietf => p.nowIetf
  | .google => p.nowClassic

theorem sa_mem_expectedSent {E : Env} {K : Keys} {s : Server} {p : Server.Pass} {x : Sent} :
    x ∈ expectedSent E K s p ↔
      ∃ ver, x ∈ expectedBatch E K ver (nowOf p ver) (accepted s.srv ver (p.chunk.take s.batchSize)) := by
  unfold expectedSent
  rw [List.mem_append]
  refine ⟨fun h => h.elim (fun h => ⟨.ietf, h⟩) fun h => ⟨.google, h⟩, fun ⟨ver, h⟩ => ?_⟩
  cases ver
  · exact Or.inr h
  · exact Or.inl h

theorem sa_reply_mem (E : Env) (K : Keys) (s : Server) (p : Server.Pass) (ver : Version) (i : Nat)
    (h : i < (accepted s.srv ver (p.chunk.take s.batchSize)).length) :
    (⟨(accepted s.srv ver (p.chunk.take s.batchSize))[i].1.src,
      RT.respond E.S E.H (protoOfVer ver) K.seed (onlOf K ver) (midpVal ver (nowOf p ver)) (radiOf ver) 0 (2 ^ 64 - 1)
        ((accepted s.srv ver (p.chunk.take s.batchSize)).map (leafOf ver)) i
        (accepted s.srv ver (p.chunk.take s.batchSize))[i].2⟩ : Sent) ∈ expectedSent E K s p :=
  sa_mem_expectedSent.mpr ⟨ver, List.mem_of_getElem? (ss_expectedBatch_getElem? E K ver (nowOf p ver) _ i h)⟩

theorem sa_now_ok (p : Server.Pass) (hp : PassOK p) (ver : Version) : clockOK (nowOf p ver) := by
  cases ver
  · exact hp.2.1
  · exact hp.1

theorem expectedSent_verifies (E : Env) (hE : EnvOK E) (hS : E.S.Correct) (K : Keys) (hK : K.OK)
    (s : Server) (hb : s.batchSize ≤ 2 ^ 32) (p : Server.Pass) (hp : PassOK p) (ver : Version) (i : Nat)
    (h : i < (accepted s.srv ver (p.chunk.take s.batchSize)).length) :
    ∃ x ∈ expectedSent E K s p, x.dst = (accepted s.srv ver (p.chunk.take s.batchSize))[i].1.src ∧
      (s.batchSize ≤ 255 →
        x.bytes.length ≤ (accepted s.srv ver (p.chunk.take s.batchSize))[i].1.bytes.length) ∧
      RT.verifyResponse E.S E.H (protoOfVer ver) (E.S.pk K.seed)
        (accepted s.srv ver (p.chunk.take s.batchSize))[i].1.bytes
        (accepted s.srv ver (p.chunk.take s.batchSize))[i].2 x.bytes
        = .ok (midpVal ver (nowOf p ver), radiOf ver) := by
  have hle := sa_accepted_le s.srv ver p.chunk s.batchSize
  obtain ⟨_, _, h1024, hn⟩ := sa_accepted_getElem s.srv ver (p.chunk.take s.batchSize) i h
  refine ⟨_, sa_reply_mem E K s p ver i h, rfl, fun hb255 => ?_, ?_⟩
  · exact Nat.le_trans (sa_reply_length E hE K ver _ _ (by omega) i h hn) (by omega)
  · exact sa_reply_verifies E hE hS K hK ver _ (sa_now_ok p hp ver) _ (by omega) i h hn

theorem honest (E : Env) (hE : EnvOK E) (hS : E.S.Correct) (K : Keys) (hK : K.OK) (debug : Bool)
    (s : Server) (hs : Inv E K s) (hb : s.batchSize ≤ 2 ^ 32) (p : Server.Pass) (hp : PassOK p) :
    ∃ s' sent ev, Server.pass E debug s p = .ok (s', sent, ev) ∧
      ∀ ver, ∀ i (h : i < (accepted s.srv ver (p.chunk.take s.batchSize)).length),
        let reqs := accepted s.srv ver (p.chunk.take s.batchSize)
        let now := match ver with | .ietf => p.nowIetf | .google => p.nowClassic
        ∃ x ∈ sent, x.dst = reqs[i].1.src ∧
          RT.verifyResponse E.S E.H (protoOfVer ver) (E.S.pk K.seed) reqs[i].1.bytes reqs[i].2 x.bytes
            = .ok (midpVal ver now, radiOf ver) := by
  obtain ⟨s', hpass, _⟩ := pass_spec E hE K debug s hs hb p hp
  refine ⟨s', _, _, hpass, ?_⟩
  intro ver i h
  obtain ⟨x, hx, hd, _, hv⟩ := expectedSent_verifies E hE hS K hK s hb p hp ver i h
  -- the `match` of the statement also abstracts `h`, so it meets `nowOf` only once `ver` is a constructor
  cases ver <;> exact ⟨x, hx, hd, hv⟩

theorem sa_batch_no_amplification (E : Env) (hE : EnvOK E) (K : Keys) (srv : Bytes) (ver : Version)
    (now : Nat × Nat) (chunk : List Datagram) (hlen : (accepted srv ver chunk).length ≤ 255) :
    ∀ x ∈ expectedBatch E K ver now (accepted srv ver chunk), x.bytes.length ≤ 944 ∧
      ∃ d ∈ chunk, d.src = x.dst ∧ (∃ n v, nonceFromRequest d.bytes srv = .ok (n, v)) ∧
        x.bytes.length ≤ d.bytes.length := by
  intro x hx
  obtain ⟨i, h, rfl⟩ := List.mem_mapIdx.mp hx
  obtain ⟨hmem, hnonce, h1024, hn⟩ := sa_accepted_getElem srv ver chunk i h
  have hl := sa_reply_length E hE K ver (midpVal ver now) (accepted srv ver chunk) hlen i h hn
  refine ⟨hl, _, hmem, rfl, ⟨_, _, hnonce⟩, ?_⟩
  exact Nat.le_trans hl (by omega)

theorem workers (E : Env) (hE : EnvOK E) (hS : E.S.Correct) (seed : Bytes) (debug : Bool)
    (Ks : List Keys) (hKs : ∀ K ∈ Ks, K.OK ∧ K.seed = seed)
    (servers : List Server) (work : List (List Server.Pass))
    (hl1 : servers.length = Ks.length) (hl2 : work.length = Ks.length)
    (hinv : ∀ w (h : w < Ks.length), Inv E Ks[w] (servers[w]'(by omega)) ∧ (servers[w]'(by omega)).batchSize ≤ 255)
    (hwork : ∀ ps ∈ work, ∀ p ∈ ps, PassOK p) :
    ∀ w (h : w < Ks.length),
      let s := servers[w]'(by omega)
      let ps := work[w]'(by omega)
      ∃ s', Server.run E debug s ps = .ok (s', ps.flatMap (expectedSent E Ks[w] s), ps.flatMap (expectedEvents E Ks[w] s)) ∧
        Inv E Ks[w] s' ∧
        ∀ p ∈ ps, ∀ ver, ∀ i (hi : i < (accepted s.srv ver (p.chunk.take s.batchSize)).length),
          let reqs := accepted s.srv ver (p.chunk.take s.batchSize)
          let now := match ver with | .ietf => p.nowIetf | .google => p.nowClassic
          ∃ x ∈ expectedSent E Ks[w] s p, x.dst = reqs[i].1.src ∧
            x.bytes.length ≤ reqs[i].1.bytes.length ∧
            RT.verifyResponse E.S E.H (protoOfVer ver) (E.S.pk seed) reqs[i].1.bytes reqs[i].2 x.bytes
              = .ok (midpVal ver now, radiOf ver) := by
  intro w h s ps
  obtain ⟨hKok, hKseed⟩ := hKs Ks[w] (List.getElem_mem h)
  obtain ⟨hsinv, hsb⟩ := hinv w h
  have hps : ∀ p ∈ ps, PassOK p := hwork ps (List.getElem_mem _)
  obtain ⟨s', hrun, hinv', _⟩ := run_spec E hE Ks[w] debug ps s hsinv
    (Nat.le_trans hsb (by omega)) hps
  refine ⟨s', hrun, hinv', ?_⟩
  intro p hp ver i hi
  obtain ⟨x, hx, hd, hlen, hv⟩ := expectedSent_verifies E hE hS Ks[w] hKok s
    (Nat.le_trans hsb (by omega)) p (hps p hp) ver i hi
  cases ver <;> exact ⟨x, hx, hd, hlen hsb, hKseed ▸ hv⟩

end Rough.Lemmas.ServerAssembly
