import Rough.Model.Sign
import Rough.Lemmas.Res
/-
  Lemmas about src/sign.rs (model: Rough/Model/Sign.lean): the buffering logic of
  MsgSigner / MsgVerifier, for an arbitrary signature scheme.  Referenced by Props/C13.
-/
namespace Rough.Lemmas.Sign
open Rough

/-- messages signed by a history that starts with `cur` already buffered
    (same recursion as `Rough.Props.C13.segments.go`; Props/C13.lean imports this file) -/
def segs (cur : Bytes) : List SignerOp → List Bytes
  | [] => []
  | .update d :: ops => segs (cur ++ d) ops
  | .sign :: ops => cur :: segs [] ops

theorem runSigner_segs (S : SigScheme) (seed : Bytes) (ops : List SignerOp) :
    ∀ buf, runSigner S ⟨seed, buf⟩ ops = (segs buf ops).map (S.sign seed) := by
  induction ops with
  | nil => intro buf; rfl
  | cons op ops ih =>
    intro buf
    cases op with
    | update d => simpa [runSigner, segs, Signer.update] using ih (buf ++ d)
    | sign => simp [runSigner, segs, Signer.sign, ih []]

theorem foldl_update (s : Signer) (c : List Bytes) :
    c.foldl Signer.update s = ⟨s.seed, s.buf ++ c.flatten⟩ := by
  induction c generalizing s with
  | nil => simp
  | cons d c ih => simp [ih, Signer.update, List.append_assoc]

theorem runSigner_updates_sign (S : SigScheme) (seed : Bytes) (c : List Bytes) :
    ∀ buf, runSigner S ⟨seed, buf⟩ (c.map .update ++ [.sign]) = [S.sign seed (buf ++ c.flatten)] := by
  induction c with
  | nil => intro buf; simp [runSigner, Signer.sign]
  | cons d c ih =>
    intro buf
    simpa [runSigner, Signer.update, List.append_assoc] using ih (buf ++ d)

theorem foldl_vupdate (v : Verifier) (c : List Bytes) :
    c.foldl Verifier.update v = ⟨v.pk, v.buf ++ c.flatten⟩ := by
  induction c generalizing v with
  | nil => simp
  | cons d c ih => simp [ih, Verifier.update, List.append_assoc]

theorem verifier_new_ok (S : SigScheme) (pk : Bytes) (hpk : pk.length = 32) (hv : S.pkValid pk = true) :
    Verifier.new S pk = .ok ⟨pk, []⟩ := by
  simp [Verifier.new, hpk, hv]

/-- `seg` satisfies the defining equations of `Rough.Props.C13.segments`: `seg = go []` where `go` accumulates
    chunks until a `sign`. -/
@[reducible] def IsSegments (seg : List SignerOp → List Bytes) : Prop :=
  ∃ go : Bytes → List SignerOp → List Bytes, seg = go [] ∧
    (∀ c, go c [] = []) ∧
    (∀ c d ops, go c (.update d :: ops) = go (c ++ d) ops) ∧
    (∀ c ops, go c (.sign :: ops) = c :: go [] ops)

theorem isSegments_segs : IsSegments (segs []) :=
  ⟨segs, rfl, fun _ => rfl, fun _ _ _ => rfl, fun _ _ => rfl⟩

theorem IsSegments.eq_segs {seg : List SignerOp → List Bytes} (h : IsSegments seg) (ops : List SignerOp) :
    seg ops = segs [] ops := by
  obtain ⟨go, rfl, h1, h2, h3⟩ := h
  suffices ∀ c, go c ops = segs c ops from this []
  induction ops with
  | nil => intro c; rw [h1]; rfl
  | cons op ops ih =>
    intro c
    cases op with
    | update d => rw [h2, ih]; rfl
    | sign => rw [h3, ih]; rfl

/-- `C13_signer`.  `segments` is defined in Props/C13.lean, which imports this file, so the statement is generic in
    the segmentation function: it holds for every `seg` satisfying the defining equations of
    `segments`; the side condition is discharged by `rfl`s at the use site (auto-param). -/
theorem signer (S : SigScheme) (seed : Bytes) (ops : List SignerOp) {seg : List SignerOp → List Bytes}
    (hseg : IsSegments seg := by exact ⟨_, rfl, fun _ => rfl, fun _ _ _ => rfl, fun _ _ => rfl⟩) :
    runSigner S ⟨seed, []⟩ ops = (seg ops).map (S.sign seed) := by
  rw [hseg.eq_segs]; exact runSigner_segs S seed ops []

theorem chunking (S : SigScheme) (seed : Bytes) (c1 c2 : List Bytes) (h : c1.flatten = c2.flatten) :
    runSigner S ⟨seed, []⟩ (c1.map .update ++ [.sign]) = runSigner S ⟨seed, []⟩ (c2.map .update ++ [.sign]) := by
  rw [runSigner_updates_sign, runSigner_updates_sign, h]

theorem verifier (S : SigScheme) (pk : Bytes) (chunks : List Bytes) (sig : Bytes)
    (hpk : pk.length = 32) (hv : S.pkValid pk = true) (hs : sig.length = 64) :
    (Verifier.new S pk).bind (fun v => (chunks.foldl Verifier.update v).verify S sig)
      = .ok (S.verify pk chunks.flatten sig) := by
  rw [verifier_new_ok S pk hpk hv, Res.bind_ok]
  simp [foldl_vupdate, Verifier.verify, hs]

end Rough.Lemmas.Sign
