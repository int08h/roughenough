import Rough.Lemmas.KeysBasic
import Rough.Model.Server
/-
  What the model's fault injector `applyGrease` (src/grease.rs) returns: the reordered message for in-range indices, the
  rebuilt message of a signature corruption. Behind the dichotomy for reordered responses (`C02_grease_reorder`): the
  identity is the rearrangement that `getD` over `range` gives, and the encoding determines the tags.
-/
namespace Rough.Lemmas.Grease
open Rough Rough.Lemmas

/-- the fold of `Grease::randomly_order_tags` when every index is in range -/
theorem reorder_foldl (site : String) (fields : List (Tag × Bytes)) (d : Tag × Bytes) :
    ∀ (perm : List Nat) (l0 : List (Tag × Bytes)), (∀ i ∈ perm, i < fields.length) →
    perm.foldl (fun (acc : Res (List (Tag × Bytes))) i => acc.bind fun l =>
        (Res.unwrap site fields[i]?).bind fun f => .ok (l ++ [f])) (.ok l0)
      = .ok (l0 ++ perm.map (fun i => fields.getD i d)) := by
  intro perm
  induction perm with
  | nil => intro l0 _; simp
  | cons i perm ih =>
    intro l0 h
    have hi : i < fields.length := h i (List.mem_cons_self ..)
    rw [List.foldl_cons, Res.bind_ok, List.getElem?_eq_getElem hi, Res.unwrap, Res.bind_ok,
      ih _ fun j hj => h j (List.mem_cons_of_mem _ hj)]
    simp [List.getD_eq_getElem?_getD, List.getElem?_eq_getElem hi]

theorem applyGrease_reorder (r : Msg) (perm : List Nat) (h : ∀ i ∈ perm, i < r.fields.length) (d : Tag × Bytes) :
    applyGrease (.reorder perm) r = .ok ⟨perm.map fun i => r.fields.getD i d⟩ := by
  rw [applyGrease, reorder_foldl _ _ d perm [] h]
  rfl

theorem applyGrease_corruptSig (r : Msg) (rho sig path srep cert indx : Bytes) (h0 : r.get Tag.SIG = some sig)
    (h1 : r.get Tag.PATH = some path) (h2 : r.get Tag.SREP = some srep) (h3 : r.get Tag.CERT = some cert)
    (h4 : r.get Tag.INDX = some indx) :
    applyGrease (.corruptSig rho) r =
      .ok ⟨[(Tag.SIG, rho), (Tag.PATH, path), (Tag.SREP, srep), (Tag.CERT, cert), (Tag.INDX, indx)]⟩ := by
  simp only [applyGrease, h0, h1, h2, h3, h4, Option.isNone_some, Bool.false_eq_true, if_false, Res.unwrap, Res.bind_ok]
  exact Keys.buildMsg_sorted _ _ (by tags_sorted)

theorem map_getD_range {α} (l : List α) (d : α) : (List.range l.length).map (fun i => l.getD i d) = l := by
  apply List.ext_getElem
  · simp
  · intro i h1 h2
    simp [List.getD_eq_getElem?_getD, List.getElem?_eq_getElem h2]

/-- rearranging a strictly sorted list by a permutation of its positions leaves it sorted only if nothing moves: the
    permutation then lists the positions in increasing order, and that one is `range` -/
theorem map_getD_perm_sorted {α} {lt : α → α → Prop} (hirr : ∀ a, ¬ lt a a) (hasym : ∀ a b, lt a b → ¬ lt b a)
    (l : List α) (d : α) (hl : l.Pairwise lt) {perm : List Nat} (hp : perm.Perm (List.range l.length))
    (hs : (perm.map fun i => l.getD i d).Pairwise lt) : (perm.map fun i => l.getD i d) = l := by
  have hin : ∀ i ∈ perm, i < l.length := fun i hi => List.mem_range.mp (hp.mem_iff.mp hi)
  have hl' := List.pairwise_iff_getElem.mp hl
  have hpw : perm.Pairwise (· < ·) := by
    refine (List.pairwise_map.mp hs).imp_of_mem fun {i j} hi hj hij => ?_
    have hi' := hin i hi
    have hj' := hin j hj
    simp only [List.getD_eq_getElem?_getD, List.getElem?_eq_getElem hi', List.getElem?_eq_getElem hj',
      Option.getD_some] at hij
    rcases Nat.lt_trichotomy i j with hlt | rfl | hgt
    · exact hlt
    · exact absurd hij (hirr _)
    · exact absurd hij (hasym _ _ (hl' j i hj' hi' hgt))
  rw [List.Perm.eq_of_pairwise (le := (· < ·)) (by intro a b _ _ h1 h2; omega) hpw List.pairwise_lt_range hp,
    map_getD_range]

theorem encode_tags_inj (a b : Msg) (ha : a.fields.length < 4294967296) (hb : b.fields.length < 4294967296)
    (h : encode a = encode b) : a.tags = b.tags := by
  have hn : a.fields.length = b.fields.length := by
    have h1 := congrArg rd32 h
    rw [encode_eq, encode_eq, rd32_le32_append, rd32_le32_append] at h1
    omega
  rw [encode_eq, encode_eq] at h
  obtain ⟨_, h2⟩ := List.append_inj h (by simp)
  obtain ⟨_, h3⟩ := List.append_inj h2 (by
    simp only [length_flatMap_le32, offsetsFrom_length, values_length, hn])
  obtain ⟨h4, _⟩ := List.append_inj h3 (by simp only [length_flatMap_wire, tags_length, hn])
  exact flatMap_wire_inj h4

end Rough.Lemmas.Grease
