import Rough.Lemmas.MerkleModel
/-
  C04 lemmas: what `root_from_paths` computes on the genuine path, the level lists of a batch as those of its abstract
  tree, and from these `runBatch_eq`, `complete` and `binding`.
  Spec-side facts live in MerkleSpec.lean, the level-vector refinement in MerkleModel.lean.
-/
namespace Rough.Lemmas.Merkle
open Rough Rough.Merkle Rough.Spec.MT

theorem finalize_false (d : Bytes) : finalize false d = .ok d := rfl

theorem finalize_true_eq_ok {d r : Bytes} : finalize true d = .ok r ↔ 32 ≤ d.length ∧ d.take 32 = r := by
  simp only [finalize, if_true, slice, Nat.zero_le, true_and, List.drop_zero, Nat.sub_zero]
  split <;> simp [*]

theorem finalize_id (c : MerkleCfg) (ietf : Bool) (hw : WidthOK c ietf) (d : Bytes)
    (hd : d.length = c.N) : finalize ietf d = .ok d := by
  cases ietf with
  | false => exact finalize_false d
  | true =>
    have hN : c.N = 32 := hw.2 rfl
    exact finalize_true_eq_ok.mpr ⟨by omega, List.take_of_length_le (by omega)⟩

theorem climbChunks_length (c : MerkleCfg) (hl : HashLen c) : ∀ (ps : List Bytes) (h : Bytes) (i : Nat),
    h.length = c.N → (climbChunks c h i ps).length = c.N := by
  intro ps
  induction ps with
  | nil => intro h i hh; simpa [climbChunks] using hh
  | cons p ps ih =>
    intro h i _
    simp only [climbChunks]
    apply ih
    split <;> simp [hashNodes, hl _]

theorem rootFromPaths_ok_iff (c : MerkleCfg) (ietf : Bool) (hl : HashLen c) (hw : WidthOK c ietf)
    (i : Nat) (d p r : Bytes) :
    rootFromPaths c ietf i d p = .ok r ↔
      p.length % c.N = 0 ∧ climbChunks c (hashLeaf c d) i (chunks c.N p) = r := by
  have hN : c.N ≠ 0 := Nat.pos_iff_ne_zero.mp hw.1
  rw [rootFromPaths, if_neg hN]
  by_cases hmod : p.length % c.N = 0
  · have hlen := climbChunks_length c hl (chunks c.N p) (hashLeaf c d) i (hl _)
    rw [if_neg (by simp [hmod]), finalize_id c ietf hw _ hlen]
    simp [hmod]
  · simp [hmod]

theorem map_hash_leaf (c : MerkleCfg) (leaves : List Bytes) :
    (leaves.map T.leaf).map (T.hash c) = leaves.map (hashLeaf c) := by
  simp [T.hash]

theorem descend_treeOf (leaves : List Bytes) (i : Nat) (hi : i < leaves.length) :
    descend (treeOf leaves) (bitsOf i (depth leaves.length)).reverse = some (T.leaf leaves[i]) := by
  have hne : leaves ≠ [] := List.ne_nil_of_length_pos (Nat.zero_lt_of_lt hi)
  have := descend_build (leaves.map T.leaf) (by simpa using hne) i (by simpa using hi)
  simp only [List.length_map, List.getElem_map] at this
  exact this

theorem shape_treeOf (leaves : List Bytes) (hne : leaves ≠ []) : shape (depth leaves.length) (treeOf leaves) := by
  have := shape_build (leaves.map T.leaf) (by simpa using hne) 0
    (by intro t ht; obtain ⟨d, _, rfl⟩ := List.mem_map.mp ht; trivial)
  rwa [List.length_map, Nat.zero_add] at this

theorem lv_treeOf (c : MerkleCfg) (leaves : List Bytes) (hne : leaves ≠ []) :
    lv c (depth leaves.length) (leaves.map (hashLeaf c)) = [T.hash c (treeOf leaves)] := by
  have := hash_build c (leaves.map T.leaf) (by simpa using hne)
  rwa [map_hash_leaf, List.length_map] at this

theorem pathOf_eq_pathL (c : MerkleCfg) (leaves : List Bytes) (i : Nat) (hi : i < leaves.length) :
    pathOf c leaves i = pathL c (depth leaves.length) (leaves.map (hashLeaf c)) i := by
  have hne : leaves ≠ [] := List.ne_nil_of_length_pos (Nat.zero_lt_of_lt hi)
  have := siblings_build c (leaves.map T.leaf) (by simpa using hne) i (by simpa using hi)
  rwa [map_hash_leaf, List.length_map] at this

theorem pathOf_length (c : MerkleCfg) (leaves : List Bytes) (i : Nat) (hi : i < leaves.length) :
    (pathOf c leaves i).length = depth leaves.length := by
  rw [pathOf, List.length_reverse, siblings_length c _ _ _ (descend_treeOf leaves i hi), List.length_reverse,
    bitsOf_length]

theorem pathOf_mem_length (c : MerkleCfg) (hl : HashLen c) (leaves : List Bytes) (i : Nat) :
    ∀ x ∈ pathOf c leaves i, x.length = c.N := by
  intro x hx
  exact siblings_mem_length c hl _ _ x (List.mem_reverse.mp hx)

theorem climbChunks_pathOf (c : MerkleCfg) (leaves : List Bytes) (i : Nat) (hi : i < leaves.length) :
    climbChunks c (hashLeaf c leaves[i]) i (pathOf c leaves i) = T.hash c (treeOf leaves) := by
  have hd := descend_treeOf leaves i hi
  rw [climbChunks_eq_climb, pathOf_length c leaves i hi, pathOf,
    List.zip, List.reverse_zipWith (by rw [List.length_reverse, siblings_length c _ _ _ hd, List.length_reverse]),
    List.reverse_reverse]
  exact climb_descend c _ _ _ hd

theorem verify_genuine (c : MerkleCfg) (ietf : Bool) (hl : HashLen c) (hw : WidthOK c ietf)
    (leaves : List Bytes) (i : Nat) (hi : i < leaves.length) :
    rootFromPaths c ietf i leaves[i] (pathOf c leaves i).flatten = .ok (T.hash c (treeOf leaves)) := by
  have hmem := pathOf_mem_length c hl leaves i
  rw [rootFromPaths_ok_iff c ietf hl hw, chunks_flatten_of c.N hw.1 _ hmem]
  exact ⟨by rw [List.length_flatten_const _ _ hmem]; exact Nat.mul_mod_right .., climbChunks_pathOf c leaves i hi⟩

theorem runBatch_eq (c : MerkleCfg) (ietf : Bool) (hl : HashLen c) (hw : WidthOK c ietf)
    (t : Tree) (ht : t.levels ≠ []) (leaves : List Bytes) (hne : leaves ≠ []) :
    runBatch c ietf t leaves
      = .ok (⟨finished c (leaves.map (hashLeaf c)) (t.levels.length - 1)⟩, T.hash c (treeOf leaves)) := by
  rw [runBatch, reset_pushAll c t ht leaves, Res.bind_ok]
  exact computeRoot_spec c ietf _ (by simpa using hne) _ _ (by rw [List.length_map]; exact lv_treeOf c leaves hne)
    (finalize_id c ietf hw _ (hash_length c hl _))

theorem complete (c : MerkleCfg) (ietf : Bool) (hl : HashLen c) (hw : WidthOK c ietf)
    (t : Tree) (ht : t.levels ≠ []) (leaves : List Bytes) (hne : leaves ≠ [])
    (hsz : leaves.length ≤ 2 ^ 32) :
    ∃ t' r, runBatch c ietf t leaves = .ok (t', r) ∧ t'.levels ≠ [] ∧
      r = T.hash c (treeOf leaves) ∧
      ∀ i (hi : i < leaves.length),
        getPaths t' i = .ok (pathOf c leaves i).flatten ∧
        rootFromPaths c ietf i leaves[i] (pathOf c leaves i).flatten = .ok r := by
  refine ⟨_, _, runBatch_eq c ietf hl hw t ht leaves hne, finished_ne_nil _ _ _, rfl, fun i hi =>
    ⟨?_, verify_genuine c ietf hl hw leaves i hi⟩⟩
  rw [pathOf_eq_pathL c leaves i hi, ← List.length_map (hashLeaf c)]
  exact getPaths_spec c _ (by rw [List.length_map]; exact depth_le_of_le_pow 32 _ hsz) _ i (by simpa using hi)

theorem history_ok (c : MerkleCfg) (ietf : Bool) (hl : HashLen c) (hw : WidthOK c ietf) :
    ∀ (history : List (List Bytes)), (∀ b ∈ history, b ≠ []) →
    ∀ (t : Tree), t.levels ≠ [] →
    ∃ tOld, history.foldl
        (fun (rt : Res Tree) b => rt.bind fun t => (runBatch c ietf t b).bind fun x => .ok x.1)
        (.ok t) = .ok tOld ∧ tOld.levels ≠ [] := by
  intro history
  induction history with
  | nil => intro _ t ht; exact ⟨t, rfl, ht⟩
  | cons b bs ih =>
    intro hh t ht
    obtain ⟨tOld, hfold, hOld⟩ := ih (fun x hx => hh x (by simp [hx]))
      ⟨finished c (b.map (hashLeaf c)) (t.levels.length - 1)⟩ (finished_ne_nil _ _ _)
    refine ⟨tOld, ?_, hOld⟩
    simp only [List.foldl_cons, Res.bind_ok, runBatch_eq c ietf hl hw t ht b (hh b (by simp))]
    exact hfold

theorem binding_climb (c : MerkleCfg) (hl : HashLen c) (hN : 0 < c.N)
    (leaves : List Bytes) (i' : Nat) (hi : i' < leaves.length) (d' p' : Bytes)
    (hmod : p'.length % c.N = 0)
    (h : climbChunks c (hashLeaf c d') i' (chunks c.N p') = T.hash c (treeOf leaves)) :
    Broken c ∨ (d' = leaves[i'] ∧ p' = (pathOf c leaves i').flatten) := by
  obtain ⟨hchunk, hflat⟩ := chunks_spec c.N hN p' hmod
  rw [climbChunks_eq_climb] at h
  have hlenb := bitsOf_length i' (chunks c.N p').length
  refine (bind_T c hl _ _ d' (fun s hs => hchunk _ (List.of_mem_zip (List.mem_reverse.mp hs)).2) h).imp_right ?_
  rw [List.map_reverse, List.map_reverse, List.map_fst_zip (by omega), List.map_snd_zip (by omega)]
  intro ⟨hdesc, hsib⟩
  -- all leaves of the batch tree sit at depth `depth`, so the path has exactly that many elements
  have hk := shape_descend_leaf _ _ _ _ (shape_treeOf leaves (List.ne_nil_of_length_pos (Nat.zero_lt_of_lt hi))) hdesc
  rw [List.length_reverse, hlenb] at hk
  rw [hk, descend_treeOf leaves i' hi] at hdesc
  rw [hk] at hsib
  exact ⟨by cases hdesc; rfl, by rw [pathOf, hsib, List.reverse_reverse, hflat]⟩

theorem binding (c : MerkleCfg) (ietf : Bool) (hl : HashLen c) (hw : WidthOK c ietf)
    (leaves : List Bytes) (hne : leaves ≠ []) (i' : Nat) (hi : i' < leaves.length)
    (d' p' : Bytes)
    (h : rootFromPaths c ietf i' d' p' = .ok (T.hash c (treeOf leaves))) :
    Broken c ∨ (d' = leaves[i'] ∧ p' = (pathOf c leaves i').flatten) :=
  have ⟨hmod, hc⟩ := (rootFromPaths_ok_iff c ietf hl hw i' d' p' _).mp h
  binding_climb c hl hw.1 leaves i' hi d' p' hmod hc

end Rough.Lemmas.Merkle
