import Rough.Model.Stats
import Rough.Lemmas.Lists
import Rough.Spec.ServerSpec
/-
  Lemmas for C17 about the statistics model (Model/Stats.lean): what one `record` does to each observable of the
  per-client recorder, from which conservation, the bound, and agreement with the aggregated recorder (no overflow)
  follow by induction over the history; the reporter's merge; the events of a server pass against its traffic (`wiring`).
-/
namespace Rough.Lemmas.Stats
open Rough Rough.Stats Rough.ServerSpec

/-- the bytes an event adds to `bytesSent` -/
def respBytes (e : Event) : Nat :=
  match e.kind with
  | .rfcResp => e.bytes
  | .classicResp => e.bytes
  | _ => 0

theorem get_zero (k : Kind) : Counters.zero.get k = 0 := by
  cases k <;> rfl

theorem get_bump (c : Counters) (e : Event) (k : Kind) :
    (c.bump e).get k = c.get k + (if e.kind = k then 1 else 0) := by
  obtain ⟨ek, ea, eb⟩ := e
  cases ek <;> cases k <;> rfl

theorem bytes_bump (c : Counters) (e : Event) :
    (c.bump e).bytesSent = c.bytesSent + respBytes e := by
  obtain ⟨ek, ea, eb⟩ := e
  cases ek <;> rfl

theorem get_merge (a b : Counters) (k : Kind) : (a.merge b).get k = a.get k + b.get k := by
  cases k <;> rfl

/-- association-list lookup (first match) -/
def lk (l : List (Addr × Counters)) (a : Addr) : Option Counters :=
  (l.find? (fun p => p.1 = a)).map (·.2)

theorem lk_nil (a : Addr) : lk [] a = none := rfl

theorem lk_cons (b : Addr) (c : Counters) (l : List (Addr × Counters)) (a : Addr) :
    lk ((b, c) :: l) a = if b = a then some c else lk l a := by
  unfold lk
  by_cases h : b = a <;> simp [h]

theorem lk_upsert (l : List (Addr × Counters)) (b : Addr) (f : Counters → Counters) (a : Addr) :
    lk (PerClient.upsert l b f) a =
      if b = a then some (f ((lk l b).getD Counters.zero)) else lk l a := by
  fun_induction PerClient.upsert l b f with
  | case1 => simp [lk_cons, lk_nil]
  | case2 => by_cases hba : b = a <;> simp [lk_cons, hba]
  | case3 x c rest hbx ih =>
    have hxb : ¬ x = b := fun h => hbx h.symm
    simp only [lk_cons, ih, hxb]
    by_cases hba : b = a
    · subst hba; simp [hxb]
    · simp [hba]

theorem upsert_length_le (l : List (Addr × Counters)) (a : Addr) (f : Counters → Counters) :
    (PerClient.upsert l a f).length ≤ l.length + 1 := by
  fun_induction PerClient.upsert l a f <;> simp <;> omega

theorem upsert_keys (l : List (Addr × Counters)) (a : Addr) (f : Counters → Counters) :
    (PerClient.upsert l a f).map (·.1) =
      if a ∈ l.map (·.1) then l.map (·.1) else l.map (·.1) ++ [a] := by
  fun_induction PerClient.upsert l a f with
  | case1 => simp
  | case2 => simp
  | case3 x c rest hax ih =>
    simp only [hax, List.map_cons, ih, List.mem_cons, false_or]
    split <;> simp

theorem upsert_nodup (l : List (Addr × Counters)) (a : Addr) (f : Counters → Counters)
    (h : (l.map (·.1)).Nodup) : ((PerClient.upsert l a f).map (·.1)).Nodup := by
  rw [upsert_keys]
  split
  · exact h
  · rename_i hn
    exact List.nodup_append.mpr
      ⟨h, List.nodup_cons.mpr ⟨List.not_mem_nil, List.nodup_nil⟩, fun x hx y hy e => hn ((e.trans (List.mem_singleton.mp hy)) ▸ hx)⟩

theorem upsert_sum (g : Counters → Nat) (d : Nat) (f : Counters → Counters)
    (hf : ∀ c, g (f c) = g c + d) (h0 : g Counters.zero = 0)
    (l : List (Addr × Counters)) (a : Addr) :
    ((PerClient.upsert l a f).map fun p => g p.2).sum = (l.map fun p => g p.2).sum + d := by
  fun_induction PerClient.upsert l a f with
  | case1 => simp [hf, h0]
  | case2 => simp [hf]; omega
  | case3 _ _ _ _ ih => simp [ih]; omega

/-! ## `PerClient.record`, one step

The rest of the file uses `record` only through these equations: what one event does to each observable of the
recorder, with the table full (`s.limit ≤ s.clients.length`: only the overflow count moves) or not. -/

theorem run_cons (s : PerClient) (e : Event) (h : List Event) :
    PerClient.run s (e :: h) = PerClient.run (s.record e) h := rfl

theorem run_nil (s : PerClient) : PerClient.run s [] = s := rfl

theorem record_full (s : PerClient) (e : Event) (h : s.limit ≤ s.clients.length) :
    s.record e = { s with overflows := s.overflows + 1 } := if_pos h

theorem record_room (s : PerClient) (e : Event) (h : ¬ s.limit ≤ s.clients.length) :
    s.record e = { s with clients := PerClient.upsert s.clients e.addr fun c => c.bump e } := if_neg h

theorem record_limit (s : PerClient) (e : Event) : (s.record e).limit = s.limit := by
  unfold PerClient.record; split <;> rfl

theorem record_overflows (s : PerClient) (e : Event) :
    (s.record e).overflows = s.overflows + (if s.limit ≤ s.clients.length then 1 else 0) := by
  unfold PerClient.record; split <;> rfl

theorem record_total (s : PerClient) (e : Event) (k : Kind) :
    (s.record e).total k =
      s.total k + (if s.limit ≤ s.clients.length then 0 else if e.kind = k then 1 else 0) := by
  unfold PerClient.record; split
  · rfl
  · exact upsert_sum (fun c => c.get k) _ _ (fun c => get_bump c e k) (get_zero k) s.clients e.addr

theorem record_totalBytes (s : PerClient) (e : Event) :
    (s.record e).totalBytes = s.totalBytes + (if s.limit ≤ s.clients.length then 0 else respBytes e) := by
  unfold PerClient.record; split
  · rfl
  · exact upsert_sum (fun c => c.bytesSent) _ _ (fun c => bytes_bump c e) rfl s.clients e.addr

theorem get_eq (s : PerClient) (a : Addr) (k : Kind) :
    s.get a k = ((lk s.clients a).getD Counters.zero).get k := rfl

theorem record_get (s : PerClient) (e : Event) (a : Addr) (k : Kind) :
    (s.record e).get a k =
      s.get a k + (if s.limit ≤ s.clients.length then 0 else if e.addr = a ∧ e.kind = k then 1 else 0) := by
  unfold PerClient.record; split
  · rfl
  · simp only [get_eq, lk_upsert]
    by_cases hea : e.addr = a
    · subst hea
      simp [get_bump]
    · simp [hea]

theorem room_of_overflows (s : PerClient) (e : Event) (ho : (s.record e).overflows = s.overflows) :
    ¬ s.limit ≤ s.clients.length := by
  rw [record_overflows] at ho
  split at ho
  · omega
  · assumption

theorem count_cons (e : Event) (h : List Event) (a : Addr) (k : Kind) :
    count (e :: h) a k = (if e.addr = a ∧ e.kind = k then 1 else 0) + count h a k :=
  List.length_filter_cons (fun e : Event => e.addr = a ∧ e.kind = k) e h

theorem count_append (l₁ l₂ : List Event) (a : Addr) (k : Kind) :
    count (l₁ ++ l₂) a k = count l₁ a k + count l₂ a k := by
  unfold count
  rw [List.filter_append, List.length_append]

theorem init_get (limit : Nat) (a : Addr) (k : Kind) : (PerClient.init limit).get a k = 0 := get_zero k

/-- every kind is listed exactly once in `Kind.all` -/
theorem sum_kind_ind (k0 : Kind) : (Kind.all.map fun k => if k0 = k then 1 else 0).sum = 1 := by
  cases k0 <;> rfl

theorem record_conserve (s : PerClient) (e : Event) :
    (Kind.all.map (s.record e).total).sum + (s.record e).overflows
      = (Kind.all.map s.total).sum + s.overflows + 1 := by
  rw [record_overflows, funext (record_total s e), List.sum_map_add]
  split
  · have : (Kind.all.map fun _ => 0).sum = 0 := rfl
    omega
  · rw [sum_kind_ind]; omega

theorem run_get_le (h : List Event) (s : PerClient) (a : Addr) (k : Kind) :
    (PerClient.run s h).get a k ≤ s.get a k + count h a k := by
  induction h generalizing s with
  | nil => exact Nat.le_add_right _ _
  | cons e h ih =>
    rw [run_cons, count_cons]
    have h1 := ih (s.record e)
    rw [record_get] at h1
    split at h1 <;> omega

theorem run_conserve (h : List Event) (s : PerClient) :
    (Kind.all.map (PerClient.run s h).total).sum + (PerClient.run s h).overflows
      = (Kind.all.map s.total).sum + s.overflows + h.length := by
  induction h generalizing s with
  | nil => exact (Nat.add_zero _).symm
  | cons e h ih =>
    rw [run_cons, ih, record_conserve, List.length_cons]; omega

theorem conservation (limit : Nat) (h : List Event) :
    let s := PerClient.run (PerClient.init limit) h
    (∀ a k, s.get a k ≤ count h a k) ∧ (Kind.all.map s.total).sum + s.overflows = h.length := by
  refine ⟨fun a k => ?_, ?_⟩
  · have := run_get_le h (PerClient.init limit) a k
    rwa [init_get, Nat.zero_add] at this
  · have := run_conserve h (PerClient.init limit)
    rw [show (PerClient.init limit).total = fun _ => 0 from rfl, show (Kind.all.map fun _ => 0).sum = 0 from rfl,
      show (PerClient.init limit).overflows = 0 from rfl] at this
    exact this.trans (Nat.zero_add _)

theorem record_bounded (s : PerClient) (e : Event)
    (hl : s.clients.length ≤ s.limit) (hn : (s.clients.map (·.1)).Nodup) :
    (s.record e).clients.length ≤ (s.record e).limit ∧ ((s.record e).clients.map (·.1)).Nodup := by
  unfold PerClient.record; split
  · exact ⟨hl, hn⟩
  · have := upsert_length_le s.clients e.addr (fun c => c.bump e)
    exact ⟨by simp only; omega, upsert_nodup _ _ _ hn⟩

theorem run_limit (h : List Event) (s : PerClient) : (PerClient.run s h).limit = s.limit := by
  induction h generalizing s with
  | nil => rfl
  | cons e h ih => rw [run_cons, ih, record_limit]

theorem run_bounded (h : List Event) (s : PerClient)
    (hl : s.clients.length ≤ s.limit) (hn : (s.clients.map (·.1)).Nodup) :
    (PerClient.run s h).clients.length ≤ s.limit ∧ ((PerClient.run s h).clients.map (·.1)).Nodup := by
  induction h generalizing s with
  | nil => exact ⟨hl, hn⟩
  | cons e h ih =>
    have ⟨h1, h2⟩ := record_bounded s e hl hn
    have := ih (s.record e) h1 h2
    rwa [record_limit] at this

theorem bounded (limit : Nat) (h : List Event) :
    let s := PerClient.run (PerClient.init limit) h
    s.clients.length ≤ limit ∧ (s.clients.map (·.1)).Nodup :=
  run_bounded h (PerClient.init limit) (Nat.zero_le _) List.nodup_nil

theorem arun_cons (g : Aggregated) (e : Event) (h : List Event) :
    Aggregated.run g (e :: h) = Aggregated.run (g.record e) h := rfl

theorem arun_get (h : List Event) (g : Aggregated) (k : Kind) :
    (Aggregated.run g h).c.get k = g.c.get k + (h.filter fun e => e.kind = k).length := by
  induction h generalizing g with
  | nil => simp [Aggregated.run]
  | cons e h ih =>
    rw [arun_cons, ih, List.length_filter_cons (fun e : Event => e.kind = k), ← Nat.add_assoc]
    exact congrArg (· + _) (get_bump g.c e k)

theorem arun_bytes (h : List Event) (g : Aggregated) :
    (Aggregated.run g h).c.bytesSent = g.c.bytesSent + (h.map respBytes).sum := by
  induction h generalizing g with
  | nil => simp [Aggregated.run]
  | cons e h ih =>
    rw [arun_cons, ih]
    simp only [Aggregated.record, bytes_bump, List.map_cons, List.sum_cons]; omega

theorem aggregated (h : List Event) (k : Kind) :
    (Aggregated.run Aggregated.init h).c.get k = (h.filter fun e => e.kind = k).length := by
  rw [arun_get]; simp [Aggregated.init, get_zero]

/-- the per-client table sums to the aggregated block -/
def Rel (s : PerClient) (g : Aggregated) : Prop :=
  (∀ k, s.total k = g.c.get k) ∧ s.totalBytes = g.c.bytesSent

theorem run_overflows_ge (h : List Event) (s : PerClient) : s.overflows ≤ (PerClient.run s h).overflows := by
  induction h generalizing s with
  | nil => exact Nat.le_refl _
  | cons e h ih =>
    rw [run_cons]
    exact Nat.le_trans (by rw [record_overflows]; omega) (ih _)

theorem run_overflows_eq (e : Event) (h : List Event) (s : PerClient)
    (ho : (PerClient.run s (e :: h)).overflows = s.overflows) :
    (s.record e).overflows = s.overflows ∧ (PerClient.run (s.record e) h).overflows = (s.record e).overflows := by
  rw [run_cons] at ho
  have h1 : s.overflows ≤ (s.record e).overflows := by rw [record_overflows]; omega
  have h2 := run_overflows_ge h (s.record e)
  omega

theorem record_rel (s : PerClient) (g : Aggregated) (e : Event) (hr : Rel s g)
    (ho : (s.record e).overflows = s.overflows) : Rel (s.record e) (g.record e) := by
  have hroom := room_of_overflows s e ho
  refine ⟨fun k => ?_, ?_⟩
  · rw [record_total, if_neg hroom, hr.1 k]; exact (get_bump g.c e k).symm
  · rw [record_totalBytes, if_neg hroom, hr.2]; exact (bytes_bump g.c e).symm

theorem run_rel (h : List Event) (s : PerClient) (g : Aggregated) (hr : Rel s g)
    (ho : (PerClient.run s h).overflows = s.overflows) :
    Rel (PerClient.run s h) (Aggregated.run g h) := by
  induction h generalizing s g with
  | nil => exact hr
  | cons e h ih =>
    obtain ⟨h1, h2⟩ := run_overflows_eq e h s ho
    exact ih _ _ (record_rel s g e hr h1) h2

theorem run_get_eq (h : List Event) (s : PerClient) (a : Addr) (k : Kind)
    (ho : (PerClient.run s h).overflows = s.overflows) :
    (PerClient.run s h).get a k = s.get a k + count h a k := by
  induction h generalizing s with
  | nil => rfl
  | cons e h ih =>
    obtain ⟨h1, h2⟩ := run_overflows_eq e h s ho
    rw [run_cons, count_cons, ih (s.record e) h2, record_get, if_neg (room_of_overflows s e h1)]
    omega

theorem run_init_get (limit : Nat) (iv : List Event) (a : Addr) (k : Kind)
    (ho : (PerClient.run (PerClient.init limit) iv).overflows = 0) :
    (PerClient.run (PerClient.init limit) iv).get a k = count iv a k :=
  (run_get_eq iv _ a k ho).trans ((congrArg (· + _) (init_get limit a k)).trans (Nat.zero_add _))

theorem totals_of_rel (s : PerClient) (g : Aggregated) (hr : Rel s g) : s.totals = g.totals := by
  obtain ⟨h1, h2⟩ := hr
  simp only [PerClient.totals, Aggregated.totals, h1, h2, Counters.get]

/-! ## the reporter's merge -/

theorem lk_getD (l : List (Addr × Counters)) (a : Addr) (k : Kind) :
    ((l.find? (fun p => p.1 = a)).map (·.2.get k)).getD 0 = ((lk l a).getD Counters.zero).get k := by
  unfold lk
  cases l.find? (fun p => p.1 = a) <;> simp [get_zero]

theorem snap_fold (snap : List (Addr × Counters)) (acc : List (Addr × Counters)) (a : Addr) (k : Kind) :
    ((lk (snap.foldl (fun acc (p : Addr × Counters) =>
        PerClient.upsert acc p.1 (fun c => c.merge p.2)) acc) a).getD Counters.zero).get k
      = ((lk acc a).getD Counters.zero).get k + ((snap.filter fun p => p.1 = a).map (·.2.get k)).sum := by
  induction snap generalizing acc with
  | nil => simp
  | cons p snap ih =>
    rw [List.foldl_cons, ih, lk_upsert, List.filter_cons]
    by_cases hpa : p.1 = a
    · simp [hpa, get_merge]; omega
    · simp [hpa]

theorem receive_fold (snaps : List (List (Addr × Counters))) (acc : List (Addr × Counters))
    (a : Addr) (k : Kind) :
    ((lk (reporterReceive acc snaps) a).getD Counters.zero).get k
      = ((lk acc a).getD Counters.zero).get k
        + ((snaps.flatten.filter fun p => p.1 = a).map (·.2.get k)).sum := by
  induction snaps generalizing acc with
  | nil => simp [reporterReceive]
  | cons snap snaps ih =>
    have hstep : reporterReceive acc (snap :: snaps) =
        reporterReceive (snap.foldl (fun acc (p : Addr × Counters) =>
          PerClient.upsert acc p.1 (fun c => c.merge p.2)) acc) snaps := rfl
    rw [hstep, ih, snap_fold]
    simp only [List.flatten_cons, List.filter_append, List.map_append, List.sum_append]
    omega

theorem merge (snapshots : List (List (Addr × Counters))) (a : Addr) (k : Kind) :
    (((reporterReceive [] snapshots).find? (fun p => p.1 = a)).map (·.2.get k)).getD 0
      = ((snapshots.flatten.filter fun p => p.1 = a).map (·.2.get k)).sum := by
  rw [lk_getD, receive_fold]
  simp [lk_nil, get_zero]

/-! ## the events of a server pass -/

theorem filter_kind_map {α : Type} (l : List α) (f : α → Event) (k0 k : Kind)
    (hf : ∀ x, (f x).kind = k0) :
    ((l.map f).filter fun e => e.kind = k).length = if k0 = k then l.length else 0 := by
  split
  · rename_i hk
    rw [List.filter_eq_self.mpr, List.length_map]
    intro e he
    obtain ⟨x, _, rfl⟩ := List.mem_map.mp he
    exact decide_eq_true ((hf x).trans hk)
  · rename_i hk
    rw [List.filter_eq_nil_iff.mpr]
    · rfl
    intro e he h
    obtain ⟨x, _, rfl⟩ := List.mem_map.mp he
    exact hk ((hf x).symm.trans (of_decide_eq_true h))

theorem respBytes_requestEvent (srv : Bytes) (d : Datagram) : respBytes (requestEvent srv d) = 0 := by
  unfold requestEvent
  split <;> rfl

theorem reqEvents_bytes (srv : Bytes) (chunk : List Datagram) :
    ((chunk.map (requestEvent srv)).map respBytes).sum = 0 := by
  induction chunk with
  | nil => rfl
  | cons d ds ih => simp only [List.map_cons, List.sum_cons, ih, respBytes_requestEvent]

theorem reqEvents_count (srv : Bytes) (chunk : List Datagram) :
    let ev := chunk.map (requestEvent srv)
    (ev.filter fun e => e.kind = .ietfReq).length = (accepted srv .ietf chunk).length ∧
    (ev.filter fun e => e.kind = .classicReq).length = (accepted srv .google chunk).length ∧
    (ev.filter fun e => e.kind = .invalidReq).length + (accepted srv .ietf chunk).length
      + (accepted srv .google chunk).length = chunk.length ∧
    (ev.filter fun e => e.kind = .failedSend).length = 0 ∧
    (ev.filter fun e => e.kind = .retriedSend).length = 0 ∧
    (ev.filter fun e => e.kind = .healthCheck).length = 0 ∧
    (ev.filter fun e => e.kind = .rfcResp).length = 0 ∧
    (ev.filter fun e => e.kind = .classicResp).length = 0 := by
  induction chunk with
  | nil => simp [accepted]
  | cons d ds ih =>
    -- `requestEvent` and `accepted` branch on the same `nonceFromRequest d.bytes srv`: the datagram adds one to exactly
    -- one of (ietfReq, accepted ietf), (classicReq, accepted google) or invalidReq alone, and nothing to any other kind
    simp only [List.map_cons, List.filter_cons] at ih ⊢
    obtain ⟨i1, i2, i3, i4, i5, i6, i7, i8⟩ := ih
    cases hn : nonceFromRequest d.bytes srv with
    | ok x =>
      obtain ⟨n, v⟩ := x
      cases v <;> simp [accepted, requestEvent, *] <;> omega
    | err => simp [accepted, requestEvent, *]; omega
    | panic site => simp [accepted, requestEvent, *]; omega

theorem respEvents_bytes (l : List Sent) (k0 : Kind) (hk : k0 = .rfcResp ∨ k0 = .classicResp) :
    ((l.map fun x => (⟨k0, x.dst, x.bytes.length⟩ : Event)).map respBytes).sum
      = (l.map (·.bytes.length)).sum := by
  induction l with
  | nil => rfl
  | cons x l ih =>
    simp only [List.map_cons, List.sum_cons, ih]
    rcases hk with hk | hk <;> subst hk <;> simp [respBytes]

/-- the shape of `expectedEvents`, with the request events `A` and the two batches sent left as variables -/
def passEvents (A : List Event) (lI lC : List Sent) : List Event :=
  A ++ lI.map (fun x => (⟨Kind.rfcResp, x.dst, x.bytes.length⟩ : Event))
    ++ lC.map (fun x => (⟨Kind.classicResp, x.dst, x.bytes.length⟩ : Event))

theorem passEvents_filter (A : List Event) (lI lC : List Sent) (k : Kind) :
    ((passEvents A lI lC).filter fun e => e.kind = k).length
      = (A.filter fun e => e.kind = k).length + (if Kind.rfcResp = k then lI.length else 0)
        + (if Kind.classicResp = k then lC.length else 0) := by
  unfold passEvents
  rw [List.filter_append, List.filter_append, List.length_append, List.length_append,
    filter_kind_map lI _ Kind.rfcResp k (fun _ => rfl),
    filter_kind_map lC _ Kind.classicResp k (fun _ => rfl)]

theorem passEvents_bytes (A : List Event) (lI lC : List Sent) :
    ((passEvents A lI lC).map respBytes).sum
      = (A.map respBytes).sum + (lI.map (·.bytes.length)).sum + (lC.map (·.bytes.length)).sum := by
  unfold passEvents
  rw [List.map_append, List.map_append, List.sum_append, List.sum_append,
    respEvents_bytes lI _ (Or.inl rfl), respEvents_bytes lC _ (Or.inr rfl)]

theorem wiring (E : Env) (K : Keys) (s : Server) (p : Server.Pass) :
    let t := (Aggregated.run Aggregated.init (expectedEvents E K s p)).totals
    let chunk := p.chunk.take s.batchSize
    let nI := (accepted s.srv .ietf chunk).length
    let nC := (accepted s.srv .google chunk).length
    t.rfcRequests = nI ∧ t.classicRequests = nC ∧ t.validRequests = nI + nC ∧
    t.invalidRequests + nI + nC = chunk.length ∧
    t.responses = (expectedSent E K s p).length ∧ t.rfcResponses = nI ∧ t.classicResponses = nC ∧
    t.bytesSent = ((expectedSent E K s p).map (·.bytes.length)).sum ∧
    t.healthChecks = 0 ∧ t.failedSends = 0 ∧ t.retriedSends = 0 := by
  intro t chunk nI nC
  -- every counter of the run: the request events of its kind, and one response event per datagram sent
  have hg : ∀ k, (Aggregated.run Aggregated.init (expectedEvents E K s p)).c.get k =
      ((chunk.map (requestEvent s.srv)).filter fun e => e.kind = k).length
        + (if Kind.rfcResp = k then nI else 0) + (if Kind.classicResp = k then nC else 0) := fun k => by
    refine (aggregated _ k).trans ((passEvents_filter _ _ _ k).trans ?_)
    simp only [expectedBatch, List.length_mapIdx]
    rfl
  have hb : t.bytesSent = ((expectedSent E K s p).map (·.bytes.length)).sum := by
    refine (arun_bytes _ _).trans ((Nat.zero_add _).trans ((passEvents_bytes _ _ _).trans ?_))
    rw [reqEvents_bytes, Nat.zero_add, expectedSent, List.map_append, List.sum_append]
  have hl : (expectedSent E K s p).length = nI + nC := by
    simp only [expectedSent, expectedBatch, List.length_append, List.length_mapIdx]
    rfl
  obtain ⟨r1, r2, r3, r4, r5, r6, r7, r8⟩ := reqEvents_count s.srv chunk
  have g1 : t.rfcRequests = nI := (hg .ietfReq).trans r1
  have g2 : t.classicRequests = nC := (hg .classicReq).trans r2
  have g3 : t.invalidRequests + nI + nC = chunk.length := (congrArg (· + nI + nC) (hg .invalidReq)).trans r3
  have g7 : t.rfcResponses = nI := (hg .rfcResp).trans (by rw [r7]; exact Nat.zero_add _)
  have g8 : t.classicResponses = nC := (hg .classicResp).trans (by rw [r8]; exact Nat.zero_add _)
  have g9 : t.validRequests = nI + nC := by rw [← g1, ← g2]; rfl
  have g10 : t.responses = (expectedSent E K s p).length := by rw [hl, ← g7, ← g8]; rfl
  exact ⟨g1, g2, g9, g3, g10, g7, g8, hb, (hg .healthCheck).trans r6, (hg .failedSend).trans r4,
    (hg .retriedSend).trans r5⟩

end Rough.Lemmas.Stats
