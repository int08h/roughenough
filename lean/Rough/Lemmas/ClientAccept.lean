import Rough.Lemmas.ClientBase
import Rough.Lemmas.Respond
/-
  C03 completeness: stage by stage the client passes a parsed response that satisfies `Resp.Core`
  (`handleParsed_of`, `handleResponse_of`); hence it accepts the reference responder's reply (`accept`)
  and whatever the reference verifier accepts (`Props.Extra2.C03_accepts_spec_valid`).
-/
namespace Rough.Lemmas.Client
open Rough Rough.Spec Rough.Spec.RT Rough.Spec.MT Rough.Client Rough.Merkle Rough.ServerSpec Rough.Lemmas
open Rough.Lemmas.SpecRT Rough.Lemmas.RT

theorem handleParsed_of {S : SigScheme} {H : Bytes → Bytes} {ver : Version} {ltpk nonce request : Bytes} {f : Resp}
    (r : f.Reads) (fc : fromBytes f.certB = .ok f.cert) (fd : fromBytes f.deleB = .ok f.dele)
    (fs : fromBytes f.srepB = .ok f.srep)
    (c : f.Core S H (protoOfVer ver) ltpk (Resp.leafFor (protoOfVer ver) nonce request))
    (hmk : rootFromPaths (mcfg H (protoOfVer ver)) ver.isIetf (u32le f.indxB)
      (Resp.leafFor (protoOfVer ver) nonce request) f.path = .ok f.root)
    (pk? : Option Bytes)
    (hk : ∀ pk, pk? = some pk → pk = ltpk ∧ ltpk.length = 32 ∧ S.pkValid ltpk = true ∧ S.pkValid f.pubk = true) :
    handleParsed S H ver pk? nonce request f.msg = .ok ⟨u64le f.midp, u32le f.radi, pk?.isSome, u32le f.indxB⟩ := by
  unfold handleParsed
  refine field_bind_ok.mpr ⟨_, r.srepB, parse_bind_ok.mpr ⟨_, fs, field_bind_ok.mpr ⟨_, r.certB, parse_bind_ok.mpr ⟨_, fc,
    field_bind_ok.mpr ⟨_, r.deleB, parse_bind_ok.mpr ⟨_, fd, field_bind_ok.mpr ⟨_, r.midp, readU64_bind_ok.mpr ⟨c.midp8,
    field_bind_ok.mpr ⟨_, r.radi, readU32_bind_ok.mpr ⟨c.radi4, field_bind_ok.mpr ⟨_, r.indxB, readU32_bind_ok.mpr ⟨c.indx4,
    field_bind_ok.mpr ⟨_, r.path, Res.bind_eq_ok.mpr ⟨f.root, by cases ver <;> exact hmk, ?_⟩⟩⟩⟩⟩⟩⟩⟩⟩⟩⟩⟩⟩⟩
  refine field_bind_ok.mpr ⟨_, r.root, panic_ite_ok.mpr ⟨not_not_intro rfl, field_bind_ok.mpr ⟨_, r.mint,
    readU64_bind_ok.mpr ⟨c.mint8, field_bind_ok.mpr ⟨_, r.maxt, readU64_bind_ok.mpr ⟨c.maxt8,
    panic_ite_ok.mpr ⟨Nat.not_lt.mpr c.lo, panic_ite_ok.mpr ⟨Nat.not_lt.mpr c.hi, ?_⟩⟩⟩⟩⟩⟩⟩⟩
  cases pk? with
  | none => rfl
  | some pk =>
    obtain ⟨rfl, h32, v1, v2⟩ := hk pk rfl
    have d := c.deleOK
    have s := c.srepOK
    rw [← Shape.delePrefix_ctx] at d
    rw [← Shape.srepPrefix_ctx] at s
    exact Res.bind_eq_ok.mpr ⟨true, field_bind_ok.mpr ⟨_, r.certSig, validateSig_bind_ok.mpr ⟨h32, v1, c.certSig64,
      panic_ite_ok.mpr ⟨not_not_intro d, field_bind_ok.mpr ⟨_, r.pubk, field_bind_ok.mpr ⟨_, r.sig,
      validateSig_bind_ok.mpr ⟨c.pubk32, v2, c.sig64, panic_ite_ok.mpr ⟨not_not_intro s, rfl⟩⟩⟩⟩⟩⟩⟩, rfl⟩

theorem handleResponse_of {S : SigScheme} {H : Bytes → Bytes} {ver : Version} {ltpk request nonce dg body : Bytes}
    {f : Resp} (hdg : dg.length ≤ 4096) (hb : vframe (protoOfVer ver) dg = some body)
    (hf : Resp.parse body = some f)
    (c : f.Core S H (protoOfVer ver) ltpk (Resp.leafFor (protoOfVer ver) nonce request))
    (hroot : f.root.length = nodeWidth (protoOfVer ver))
    (pk? : Option Bytes)
    (hk : ∀ pk, pk? = some pk → pk = ltpk ∧ ltpk.length = 32 ∧ S.pkValid ltpk = true ∧ S.pkValid f.pubk = true) :
    handleResponse S H ver pk? nonce request dg = .ok ⟨u64le f.midp, u32le f.radi, pk?.isSome, u32le f.indxB⟩ := by
  obtain ⟨hm, r⟩ := Resp.parse_eq_some.mp hf
  obtain ⟨ha, hlen⟩ := aframe_of_vframe hb
  have hbl := aframe_length_le ha
  -- the nested encodings are shorter than the body, so the two decoders agree on them
  have fm := (ref_agree _ _ (by omega)).mpr hm
  have s3 := get_length_le fm r.srepB
  have s4 := get_length_le fm r.certB
  have fc := (ref_agree _ _ (by omega)).mpr r.cert
  have s10 := get_length_le fc r.deleB
  have fd := (ref_agree _ _ (by omega)).mpr r.dele
  have fs := (ref_agree _ _ (by omega)).mpr r.srep
  have hrecv : receiveResponse ver dg = .ok f.msg :=
    (receiveResponse_eq_ok hdg).mpr ⟨body, ha, fun hv => by have := (hlen (by rw [hv]; rfl)).2; omega, fm⟩
  unfold handleResponse
  rw [hrecv]
  exact handleParsed_of r fc fd fs c
    (rootFromPaths_eq_ok.mpr ⟨c.pathMod, c.climb, fun hv => by subst hv; exact Nat.le_of_eq hroot.symm⟩) pk? hk

theorem respond_fits_buffer (S : SigScheme) (H : Bytes → Bytes) (hH : ∀ x, (H x).length = 64)
    (hsig : ∀ seed m, (S.sign seed m).length = 64) (hpk : ∀ seed, (S.pk seed).length = 32)
    (ver : Version) (ltSeed onlSeed : Bytes) (midp radi mint maxt : Nat)
    (leaves : List Bytes) (i : Nat) (hi : i < leaves.length) (hn : leaves.length ≤ 2 ^ 32)
    (nonce : Bytes) (hnl : nonce.length = ver.nonceLen) :
    (RT.respond S H (protoOfVer ver) ltSeed onlSeed midp radi mint maxt leaves i nonce).length ≤ 4096 := by
  have hl := respond_length S H hH hsig hpk (protoOfVer ver) ltSeed onlSeed midp radi mint maxt leaves i hi nonce
  have hd := Lemmas.Merkle.depth_le_of_le_pow 32 leaves.length hn
  rw [hl]
  -- with depth ≤ 32: classic 368 + 64 + 64·32 = 2480, draft-13 376 + 32 + 32·32 = 1432
  cases ver <;> simp only [protoOfVer, Version.nonceLen] at hnl ⊢ <;> omega

/-- C03 completeness (`Props.C03.C03_accept` is this theorem): `handleResponse_of` on the reference reply, which
    passes `Core` by `RParams.core` -/
theorem accept (S : SigScheme) (hS : S.Correct) (hv : ∀ seed, S.pkValid (S.pk seed) = true)
    (H : Bytes → Bytes) (hH : ∀ x, (H x).length = 64)
    (hsig : ∀ seed m, (S.sign seed m).length = 64) (hpk : ∀ seed, (S.pk seed).length = 32)
    (ver : Version) (ltSeed onlSeed : Bytes) (hlt : ltSeed.length = 32) (hon : onlSeed.length = 32)
    (midp radi : Nat) (hm : midp < 2 ^ 64) (hr : radi < 2 ^ 32)
    (leaves : List Bytes) (i : Nat) (hi : i < leaves.length) (hn : leaves.length ≤ 2 ^ 32)
    (request nonce : Bytes) (hnl : nonce.length = ver.nonceLen)
    (hleaf : leaves[i] = (match ver with | .google => nonce | .ietf => request))
    (pk? : Option Bytes) (hk : pk? = none ∨ pk? = some (S.pk ltSeed)) :
    handleResponse S H ver pk? nonce request
      (RT.respond S H (protoOfVer ver) ltSeed onlSeed midp radi 0 (2 ^ 64 - 1) leaves i nonce)
      = .ok ⟨midp, radi, pk?.isSome, i⟩ := by
  have hnl' : nonce.length ≤ 64 ∧ nonce.length % 4 = 0 := by
    cases ver <;> simp only [Version.nonceLen] at hnl <;> omega
  have hfit := respond_fits_buffer S H hH hsig hpk ver ltSeed onlSeed midp radi 0 (2 ^ 64 - 1) leaves i hi hn nonce hnl
  let r : RParams := ⟨S, H, protoOfVer ver, ltSeed, onlSeed, midp, radi, 0, 2 ^ 64 - 1, leaves, i, nonce⟩
  have hok : r.OK := ⟨hH, hsig, hpk, hi, hn, hnl'.2, by have := hnl'.1; show nonce.length < 2 ^ 16; omega⟩
  have hc := RParams.core hok hS hlt hon (Nat.zero_le _) (by show midp ≤ 2 ^ 64 - 1; omega)
    (by show 2 ^ 64 - 1 < 2 ^ 64; omega) (leaf := Resp.leafFor (protoOfVer ver) nonce request)
    (hleaf.trans (by cases ver <;> rfl))
  rw [r.respond_eq] at hfit ⊢
  rw [handleResponse_of hfit (RParams.vframe_response hok) (RParams.parse_body hok) hc (RParams.root_length hok.hH) pk?
    fun pk hpk => by
      rcases hk with hk | hk <;> rw [hk] at hpk <;> cases hpk
      exact ⟨rfl, hpk _, hv _, hv _⟩]
  show Res.ok (Outcome.mk (u64le (le64 midp)) (u32le (le32 radi)) _ (u32le (le32 i))) = _
  rw [u64le_le64 midp hm, u32le_le32 radi hr, u32le_le32 i (RParams.i_lt hok)]

end Rough.Lemmas.Client
