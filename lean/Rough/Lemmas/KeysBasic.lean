import Rough.Lemmas.Codec
import Rough.Model.Keys
/-
  Reusable facts for everything that builds messages through `add_field(..).unwrap()` (`buildMsg_sorted`), the
  context strings of the two protocols as explicit bytes, and when the SRV slice of the hashed key exists (`calcSrv_ok`).
-/
namespace Rough.Lemmas.Keys
open Rough

theorem addField_ok (m : Msg) (t : Tag) (v : Bytes) (h : ∀ f ∈ m.fields, f.1.idx < t.idx) :
    m.addField t v = some ⟨m.fields ++ [(t, v)]⟩ := by
  unfold Msg.addField
  cases hl : m.fields.getLast? with
  | none =>
    have : m.fields = [] := List.getLast?_eq_none_iff.mp hl
    simp [this]
  | some p =>
    obtain ⟨lt, lv⟩ := p
    have hmem : (lt, lv) ∈ m.fields := List.mem_of_getLast? hl
    have : lt.idx < t.idx := h _ hmem
    simp only
    rw [if_neg (by omega)]

theorem buildMsg_foldl_sorted (site : String) (fields : List (Tag × Bytes)) :
    ∀ (m : Msg), ((m.fields ++ fields).map (·.1)).Pairwise (fun a b => a.idx < b.idx) →
    fields.foldl (fun (acc : Res Msg) (f : Tag × Bytes) =>
        acc.bind fun m => Res.unwrap site (m.addField f.1 f.2)) (Res.ok m)
      = Res.ok ⟨m.fields ++ fields⟩ := by
  induction fields with
  | nil => intro m _; simp
  | cons f fs ih =>
    intro m hp
    have hlt : ∀ g ∈ m.fields, g.1.idx < f.1.idx := by
      intro g hg
      rw [List.map_append, List.pairwise_append] at hp
      exact hp.2.2 g.1 (List.mem_map_of_mem hg) f.1 (by simp)
    rw [List.foldl_cons]
    have h1 : ((Res.ok m).bind fun m => Res.unwrap site (m.addField f.1 f.2))
        = .ok ⟨m.fields ++ [(f.1, f.2)]⟩ := by
      simp only [Res.bind_ok, addField_ok m f.1 f.2 hlt, Res.unwrap]
    rw [h1, ih ⟨m.fields ++ [(f.1, f.2)]⟩ (by simpa using hp)]
    simp

theorem buildMsg_sorted (site : String) (fields : List (Tag × Bytes))
    (h : (fields.map (·.1)).Pairwise (fun a b => a.idx < b.idx)) :
    buildMsg site fields = .ok ⟨fields⟩ := by
  have := buildMsg_foldl_sorted site fields Msg.empty (by simpa [Msg.empty] using h)
  simpa [buildMsg, Msg.empty] using this

/-- discharges `List.Pairwise (·.idx < ·.idx) (fields.map (·.1))` (also `Msg.Sorted ⟨fields⟩` after
    `unfold Msg.Sorted Msg.tags`) for an explicit list of fields whose tags are constructors; the
    values may be arbitrary terms.  Typical use: `buildMsg_sorted _ _ (by tags_sorted)`. -/
macro "tags_sorted" : tactic =>
  `(tactic| (simp only [List.map_cons, List.map_nil]; decide))

theorem buildMsg_of_sorted (site : String) (m : Msg) (h : m.Sorted) : buildMsg site m.fields = .ok m :=
  buildMsg_sorted site m.fields h

theorem buildMsg_ok_iff (site : String) (fields : List (Tag × Bytes)) (m : Msg) :
    (fields.map (·.1)).Pairwise (fun a b => a.idx < b.idx) → (buildMsg site fields = .ok m ↔ m = ⟨fields⟩) := by
  intro h
  rw [buildMsg_sorted site fields h]
  exact ⟨fun e => (Res.ok.inj e).symm, fun e => e ▸ rfl⟩

@[simp] theorem le64_length (n : Nat) : (le64 n).length = 8 := rfl

/-- "RoughTime v1 delegation signature" -/
def deleStr : Bytes :=
  [82, 111, 117, 103, 104, 84, 105, 109, 101, 32, 118, 49, 32, 100, 101, 108, 101, 103, 97, 116,
   105, 111, 110, 32, 115, 105, 103, 110, 97, 116, 117, 114, 101]

/-- "RoughTime v1 response signature" -/
def srepStr : Bytes :=
  [82, 111, 117, 103, 104, 84, 105, 109, 101, 32, 118, 49, 32, 114, 101, 115, 112, 111, 110, 115,
   101, 32, 115, 105, 103, 110, 97, 116, 117, 114, 101]

theorem strBytes_dele_ietf : strBytes "RoughTime v1 delegation signature" = deleStr := by
  have : "RoughTime v1 delegation signature" = String.ofList
      ['R', 'o', 'u', 'g', 'h', 'T', 'i', 'm', 'e', ' ', 'v', '1', ' ', 'd', 'e', 'l', 'e', 'g', 'a',
       't', 'i', 'o', 'n', ' ', 's', 'i', 'g', 'n', 'a', 't', 'u', 'r', 'e'] := by decide
  rw [this, strBytes_ofList]
  decide

theorem strBytes_dele_google : strBytes "RoughTime v1 delegation signature--" = deleStr ++ [45, 45] := by
  have : "RoughTime v1 delegation signature--" = String.ofList
      ['R', 'o', 'u', 'g', 'h', 'T', 'i', 'm', 'e', ' ', 'v', '1', ' ', 'd', 'e', 'l', 'e', 'g', 'a',
       't', 'i', 'o', 'n', ' ', 's', 'i', 'g', 'n', 'a', 't', 'u', 'r', 'e', '-', '-'] := by decide
  rw [this, strBytes_ofList]
  decide

theorem strBytes_srep : strBytes "RoughTime v1 response signature" = srepStr := by
  have : "RoughTime v1 response signature" = String.ofList
      ['R', 'o', 'u', 'g', 'h', 'T', 'i', 'm', 'e', ' ', 'v', '1', ' ', 'r', 'e', 's', 'p', 'o', 'n',
       's', 'e', ' ', 's', 'i', 'g', 'n', 'a', 't', 'u', 'r', 'e'] := by decide
  rw [this, strBytes_ofList]
  decide

theorem delePrefix_ietf : Version.ietf.delePrefix = deleStr ++ [0] := by
  rw [Version.delePrefix, strBytes_dele_ietf]

theorem delePrefix_google : Version.google.delePrefix = deleStr ++ [45, 45, 0] := by
  rw [Version.delePrefix, strBytes_dele_google, List.append_assoc]; rfl

theorem srepPrefix_eq (v : Version) : v.srepPrefix = srepStr ++ [0] := by
  rw [Version.srepPrefix, strBytes_srep]

theorem delePrefix_length (v : Version) :
    v.delePrefix.length = match v with | .google => 36 | .ietf => 34 := by
  cases v
  · rw [delePrefix_google]; rfl
  · rw [delePrefix_ietf]; rfl

theorem srepPrefix_length (v : Version) : v.srepPrefix.length = 32 := by
  rw [srepPrefix_eq]; rfl

theorem calcSrv_ok (H : Bytes → Bytes) (pk : Bytes) (h : 32 ≤ (H ((0xff : UInt8) :: pk)).length) :
    calcSrv H pk = .ok ((H ((0xff : UInt8) :: pk)).take 32) := by
  rw [calcSrv, slice_ok (Nat.zero_le _) h]; rfl

end Rough.Lemmas.Keys
