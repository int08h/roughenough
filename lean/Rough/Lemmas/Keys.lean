import Rough.Lemmas.Shapes
/-
  src/key/longterm.rs, src/key/online.rs, `make_response` of src/responder.rs and the key-material part of
  `Server::new` (models: Rough/Model/Keys.lean, Rough/Model/Server.lean) in closed form: when the midpoint exists and
  what it is, the four message constructors as the shapes of Lemmas/Shapes.lean, `Server::new` as three length checks
  and a record.  C10, C11, C20 (Rough/Props) and the server-level lemmas (Lemmas/ServerSpec*.lean) rest on these.
-/
namespace Rough.Lemmas.Keys
open Rough Rough.Spec.RT Rough.ServerSpec Rough.Lemmas.Shape

theorem classicMidp_eq_ok {secs nanos m : Nat} :
    classicMidp secs nanos = .ok m ↔ secs * 1000000 + nanos / 1000 < 2 ^ 64 ∧ m = secs * 1000000 + nanos / 1000 := by
  unfold classicMidp
  split
  · exact ⟨nofun, fun h => by omega⟩
  · split
    · exact ⟨nofun, fun h => by omega⟩
    · exact ⟨fun h => ⟨by omega, (Res.ok.inj h).symm⟩, fun h => h.2 ▸ rfl⟩

theorem midpOf_eq_ok {v : Version} {secs nanos m : Nat} :
    midpOf v secs nanos = .ok m ↔ match v with
      | .google => secs * 1000000 + nanos / 1000 < 2 ^ 64 ∧ m = secs * 1000000 + nanos / 1000
      | .ietf => m = secs := by
  cases v
  · exact classicMidp_eq_ok
  · exact ⟨fun h => (Res.ok.inj h).symm, fun h => h ▸ rfl⟩

/-- length of the protocol's time unit in nanoseconds (same definition as `Rough.Props.C11.unitNs`; Props/C11.lean
    imports this file, and the two unfold to the same term) -/
def unitNs : Version → Nat
  | .google => 1000
  | .ietf => 1000000000

theorem bracket (v : Version) (secs nanos m : Nat) (hn : nanos < 1000000000)
    (h : midpOf v secs nanos = .ok m) :
    m * unitNs v ≤ secs * 1000000000 + nanos ∧
    secs * 1000000000 + nanos < (m + 1) * unitNs v ∧
    (m + 1) * unitNs v ≤ (m + radiOf v) * unitNs v := by
  have hm := midpOf_eq_ok.mp h
  cases v <;> simp only [radiOf, unitNs] at hm ⊢ <;> omega

theorem makeDele_eq (S : SigScheme) (onl : Bytes) :
    makeDele S onl = .ok (deleM (S.pk onl) (le64 0) (le64 (2 ^ 64 - 1))) := by
  rw [makeDele, zeros8, ones8]; exact buildMsg_sorted _ _ (by tags_sorted)

/-- the CERT message for (long-term signer, protocol, online seed): the signature is over
    `buffer ‖ context ‖ DELE` -/
def certOf (S : SigScheme) (sg : Signer) (ver : Version) (onl : Bytes) : Msg :=
  certM (S.sign sg.seed (sg.buf ++ ver.delePrefix ++ encode (deleM (S.pk onl) (le64 0) (le64 (2 ^ 64 - 1)))))
    (encode (deleM (S.pk onl) (le64 0) (le64 (2 ^ 64 - 1))))

theorem makeCert_eq (S : SigScheme) (k : LongTermKey) (v : Version) (onl : Bytes) :
    makeCert S k v onl = .ok (certOf S k.signer v onl, { k with signer := ⟨k.signer.seed, []⟩ }) := by
  rw [makeCert, makeDele_eq, Res.bind_ok]
  dsimp only
  rw [buildMsg_sorted _ _ (by tags_sorted)]
  rfl

theorem makeSrep_eq (S : SigScheme) (onl : Signer) (v : Version) (secs nanos : Nat) (root : Bytes) (m : Nat)
    (hm : midpOf v secs nanos = .ok m) :
    makeSrep S onl v secs nanos root =
      .ok (signedM (S.sign onl.seed (onl.buf ++ v.srepPrefix ++
              encode (srepM (protoOfVer v) (le32 (radiOf v)) (le64 m) root)))
             (encode (srepM (protoOfVer v) (le32 (radiOf v)) (le64 m) root)), ⟨onl.seed, []⟩) := by
  rw [makeSrep, hm, Res.bind_ok]
  cases v <;>
  · simp only
    rw [buildMsg_sorted _ _ (by tags_sorted), Res.bind_ok, buildMsg_sorted _ _ (by tags_sorted)]
    rfl

theorem makeResponse_eq (sig srepB cert path : Bytes) (idx : Nat) (nonce : Bytes) :
    makeResponse (signedM sig srepB) cert path idx nonce = .ok (respM sig nonce path srepB cert (le32 idx)) := by
  rw [makeResponse, show (signedM sig srepB).get Tag.SIG = some sig from rfl,
    show (signedM sig srepB).get Tag.SREP = some srepB from rfl, Res.unwrap, Res.bind_ok, Res.unwrap, Res.bind_ok]
  exact buildMsg_sorted _ _ (by tags_sorted)

theorem fromSeed_eq_ok {seed : Bytes} {s : Signer} :
    Signer.fromSeed seed = .ok s ↔ seed.length = 32 ∧ s = ⟨seed, []⟩ := by
  unfold Signer.fromSeed
  split
  · exact ⟨fun h => ⟨‹_›, (Res.ok.inj h).symm⟩, fun h => h.2 ▸ rfl⟩
  · exact ⟨nofun, fun h => absurd h.1 ‹_›⟩

theorem ltkNew_eq_ok {S : SigScheme} {H : Bytes → Bytes} {seed : Bytes} {k : LongTermKey} :
    LongTermKey.new S H seed = .ok k ↔
      seed.length = 32 ∧ ∃ srv, calcSrv H (S.pk seed) = .ok srv ∧ k = ⟨⟨seed, []⟩, srv⟩ := by
  simp only [LongTermKey.new, Res.bind_eq_ok, fromSeed_eq_ok, Res.ok.injEq]
  constructor
  · rintro ⟨_, ⟨h, rfl⟩, srv, hs, rfl⟩
    exact ⟨h, srv, hs, rfl⟩
  · rintro ⟨h, srv, hs, rfl⟩
    exact ⟨_, ⟨h, rfl⟩, srv, hs, rfl⟩

/-- the server `Server::new` builds, given the SRV value computed from its public key -/
def serverOf (E : Env) (seed onlI onlC : Bytes) (b : Nat) (srv : Bytes) : Server :=
  { batchSize := b, srv := srv, ltPub := E.S.pk seed,
    ietf := ⟨Version.ietf, ⟨onlI, []⟩, encode (certOf E.S ⟨seed, []⟩ .ietf onlI), [], Merkle.new⟩,
    classic := ⟨Version.google, ⟨onlC, []⟩, encode (certOf E.S ⟨seed, []⟩ .google onlC), [], Merkle.new⟩ }

/-- The long-term seed enters the state only through its public key and the two certificate signatures; `make_cert`
    is total and returns the signer emptied, so nothing else can fail and nothing is carried over into the second
    certificate. -/
theorem server_new_eq (E : Env) (seed onlI onlC : Bytes) (b : Nat) :
    Server.new E seed onlI onlC b =
      (Signer.fromSeed seed).bind fun _ =>
      (calcSrv E.H (E.S.pk seed)).bind fun srv =>
      (Signer.fromSeed onlI).bind fun _ =>
      (Signer.fromSeed onlC).bind fun _ => .ok (serverOf E seed onlI onlC b srv) := by
  unfold Server.new LongTermKey.new
  rw [Res.bind_assoc]
  refine Res.bind_congr_ok fun sg hsg => ?_
  obtain ⟨-, rfl⟩ := fromSeed_eq_ok.mp hsg
  rw [Res.bind_assoc]
  refine Res.bind_congr_ok fun srv _ => ?_
  rw [Res.bind_ok]
  refine Res.bind_congr_ok fun sI hI => ?_
  obtain ⟨-, rfl⟩ := fromSeed_eq_ok.mp hI
  rw [makeCert_eq, Res.bind_ok]
  refine Res.bind_congr_ok fun sC hC => ?_
  obtain ⟨-, rfl⟩ := fromSeed_eq_ok.mp hC
  rw [makeCert_eq]
  rfl

theorem server_new_eq_ok {E : Env} {seed onlI onlC : Bytes} {b : Nat} {s : Server} :
    Server.new E seed onlI onlC b = .ok s ↔
      seed.length = 32 ∧ onlI.length = 32 ∧ onlC.length = 32 ∧
      ∃ srv, calcSrv E.H (E.S.pk seed) = .ok srv ∧ s = serverOf E seed onlI onlC b srv := by
  simp only [server_new_eq, Res.bind_eq_ok, fromSeed_eq_ok, Res.ok.injEq]
  constructor
  · rintro ⟨_, ⟨h1, -⟩, srv, hs, _, ⟨h2, -⟩, _, ⟨h3, -⟩, e⟩
    exact ⟨h1, h2, h3, srv, hs, e.symm⟩
  · rintro ⟨h1, h2, h3, srv, hs, e⟩
    exact ⟨_, ⟨h1, rfl⟩, srv, hs, _, ⟨h2, rfl⟩, _, ⟨h3, rfl⟩, e.symm⟩

theorem cert_ok (S : SigScheme) (hS : S.Correct) (sg : Signer) (ver : Version) (onl : Bytes)
    (hseed : sg.seed.length = 32)
    (h4 : (S.pk onl).length % 4 = 0) (hsz : (S.pk onl).length < 2 ^ 30)
    (hsig : ∀ m, (S.sign sg.seed m).length % 4 = 0 ∧ (S.sign sg.seed m).length < 2 ^ 30) :
    ∃ cert sig dele deleM,
      Spec.decode (encode (certOf S sg ver onl)) = some cert ∧ cert.get Tag.SIG = some sig ∧
      cert.get Tag.DELE = some dele ∧
      S.verify (S.pk sg.seed) (sg.buf ++ ver.delePrefix ++ dele) sig = true ∧
      Spec.decode dele = some deleM ∧ deleM.get Tag.PUBK = some (S.pk onl) ∧
      deleM.get Tag.MINT = some (le64 0) ∧ deleM.get Tag.MAXT = some (le64 (2 ^ 64 - 1)) := by
  have hl : (encode (deleM (S.pk onl) (le64 0) (le64 (2 ^ 64 - 1)))).length = 40 + (S.pk onl).length := by
    rw [encode_length, deleM_size, le64_length, le64_length]; omega
  have hs := hsig (sg.buf ++ ver.delePrefix ++ encode (deleM (S.pk onl) (le64 0) (le64 (2 ^ 64 - 1))))
  exact ⟨_, _, _, _, certM_decode _ _ hs.1 (by omega) (by omega), rfl, rfl, hS sg.seed _ hseed,
    deleM_decode _ _ _ h4 (by simp) (by simp) (by simp; omega), rfl, rfl, rfl⟩

/-- `C10_cert_valid` with, in place of `EnvOK`, only the lengths the proof needs.  Some are needed:
    `Spec.decode` rejects a CERT whose SIG or PUBK is not 4-byte aligned. -/
theorem cert_valid_aligned (E : Env) (hS : E.S.Correct) (seed onlI onlC : Bytes) (b : Nat)
    (hseed : seed.length = 32) (hI : onlI.length = 32) (hC : onlC.length = 32)
    (hH : 32 ≤ (E.H ((0xff : UInt8) :: E.S.pk seed)).length)
    (hpkI : (E.S.pk onlI).length % 4 = 0 ∧ (E.S.pk onlI).length < 2 ^ 30)
    (hpkC : (E.S.pk onlC).length % 4 = 0 ∧ (E.S.pk onlC).length < 2 ^ 30)
    (hsig : ∀ m, (E.S.sign seed m).length % 4 = 0 ∧ (E.S.sign seed m).length < 2 ^ 30) :
    ∃ s, Server.new E seed onlI onlC b = .ok s ∧ s.ltPub = E.S.pk seed ∧
      s.srv = (E.H ((0xff : UInt8) :: E.S.pk seed)).take 32 ∧
      ∀ r ∈ [s.ietf, s.classic], ∃ cert sig dele deleM,
        Spec.decode r.cert = some cert ∧ cert.get Tag.SIG = some sig ∧ cert.get Tag.DELE = some dele ∧
        E.S.verify (E.S.pk seed) (r.ver.delePrefix ++ dele) sig = true ∧
        Spec.decode dele = some deleM ∧ deleM.get Tag.PUBK = some (E.S.pk r.onl.seed) ∧
        deleM.get Tag.MINT = some (le64 0) ∧ deleM.get Tag.MAXT = some (le64 (2 ^ 64 - 1)) ∧
        r.onl.buf = [] := by
  refine ⟨_, server_new_eq_ok.mpr ⟨hseed, hI, hC, _, calcSrv_ok E.H _ hH, rfl⟩, rfl, rfl, ?_⟩
  intro r hr
  simp only [List.mem_cons, List.not_mem_nil, or_false] at hr
  rcases hr with rfl | rfl
  · obtain ⟨cert, sig, dele, deleM, h1, h2, h3, h4, h5, h6, h7, h8⟩ :=
      cert_ok E.S hS ⟨seed, []⟩ .ietf onlI hseed hpkI.1 hpkI.2 hsig
    exact ⟨cert, sig, dele, deleM, h1, h2, h3, h4, h5, h6, h7, h8, rfl⟩
  · obtain ⟨cert, sig, dele, deleM, h1, h2, h3, h4, h5, h6, h7, h8⟩ :=
      cert_ok E.S hS ⟨seed, []⟩ .google onlC hseed hpkC.1 hpkC.2 hsig
    exact ⟨cert, sig, dele, deleM, h1, h2, h3, h4, h5, h6, h7, h8, rfl⟩

theorem window (m : Nat) (h : m < 2 ^ 64) : leVal (le64 0) ≤ m ∧ m ≤ leVal (le64 (2 ^ 64 - 1)) := by
  rw [leVal_le64, leVal_le64]; omega

end Rough.Lemmas.Keys
