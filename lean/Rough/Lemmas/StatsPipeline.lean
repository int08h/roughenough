import Rough.Lemmas.Stats
/-
  C17, the pipeline of one worker (`Stats.publish`): recorder → published snapshots → reporter.  As long as no interval
  overflows the recorder, what the reporter holds after merging the queue plus what is still in the recorder is the
  count of every (address, kind) over all events.
-/
namespace Rough.Lemmas.Extra
open Rough Rough.Stats Rough.Lemmas.Stats

/-- contribution of address `a` in one snapshot -/
def snapSum (l : List (Addr × Counters)) (a : Addr) (k : Kind) : Nat :=
  ((l.filter fun p => p.1 = a).map (·.2.get k)).sum

theorem snapSum_cons (b : Addr) (c : Counters) (l : List (Addr × Counters)) (a : Addr) (k : Kind) :
    snapSum ((b, c) :: l) a k = (if b = a then c.get k else 0) + snapSum l a k := by
  unfold snapSum
  rw [List.filter_cons]
  by_cases h : b = a
  · rw [if_pos (decide_eq_true h), if_pos h, List.map_cons, List.sum_cons]
  · rw [if_neg (by simpa using h), if_neg h, Nat.zero_add]

theorem lk_absent (l : List (Addr × Counters)) (a : Addr) (h : a ∉ l.map (·.1)) : lk l a = none := by
  induction l with
  | nil => rfl
  | cons p rest ih =>
    obtain ⟨b, c⟩ := p
    simp only [List.map_cons, List.mem_cons, not_or] at h
    rw [lk_cons, if_neg (fun e => h.1 e.symm), ih h.2]

theorem snapSum_nodup (l : List (Addr × Counters)) (a : Addr) (k : Kind) (hn : (l.map (·.1)).Nodup) :
    snapSum l a k = ((lk l a).getD Counters.zero).get k := by
  induction l with
  | nil => exact (get_zero k).symm
  | cons p rest ih =>
    obtain ⟨b, c⟩ := p
    obtain ⟨hb, hn⟩ := List.nodup_cons.mp hn
    rw [snapSum_cons, lk_cons, ih hn]
    split
    · rename_i hba
      subst hba
      rw [lk_absent rest b hb, Option.getD_none, get_zero]
      rfl
    · exact Nat.zero_add _

/-- what the reporter holds for `(a, k)` after merging the queue `q` -/
def queueSum (q : List (List (Addr × Counters))) (a : Addr) (k : Kind) : Nat :=
  ((q.flatten.filter fun p => p.1 = a).map (·.2.get k)).sum

theorem queueSum_nil (a : Addr) (k : Kind) : queueSum [] a k = 0 := rfl

theorem queueSum_cons (l : List (Addr × Counters)) (q : List (List (Addr × Counters))) (a : Addr) (k : Kind) :
    queueSum (l :: q) a k = snapSum l a k + queueSum q a k := by
  unfold queueSum snapSum
  rw [List.flatten_cons, List.filter_append, List.map_append, List.sum_append]

/-- an empty snapshot is not pushed, and would contribute nothing -/
theorem queueSum_push (l : List (Addr × Counters)) (q : List (List (Addr × Counters))) (a : Addr) (k : Kind) :
    queueSum (if l.isEmpty then q else l :: q) a k = snapSum l a k + queueSum q a k := by
  cases l with
  | nil => exact (Nat.zero_add _).symm
  | cons p l => exact queueSum_cons _ _ _ _

theorem pipeline_aux (limit : Nat) (a : Addr) (k : Kind) (intervals : List (List Event))
    (hno : ∀ iv ∈ intervals, (PerClient.run (PerClient.init limit) iv).overflows = 0) :
    queueSum (publish limit intervals).1 a k + (publish limit intervals).2.get a k = count intervals.flatten a k := by
  fun_induction publish limit intervals with
  | case1 => exact (Nat.zero_add _).trans (init_get limit a k)
  | case2 last =>
    rw [List.flatten_singleton]
    exact (Nat.zero_add _).trans (run_init_get limit last a k (hno last List.mem_cons_self))
  | case3 iv rest hrest s q fin hpub ih =>
    -- the snapshot of the first interval holds its counts (distinct addresses, no overflow); the rest by induction
    rw [hpub] at ih
    rw [queueSum_push, List.flatten_cons, count_append, ← ih fun x hx => hno x (List.mem_cons_of_mem _ hx),
      snapSum_nodup _ a k (bounded limit iv).2, ← get_eq, run_init_get limit iv a k (hno iv List.mem_cons_self),
      Nat.add_assoc]

theorem pipeline (limit : Nat) (intervals : List (List Event))
    (hno : ∀ iv ∈ intervals, (PerClient.run (PerClient.init limit) iv).overflows = 0) (a : Addr) (k : Kind) :
    let (q, fin) := publish limit intervals
    (((reporterReceive [] q).find? (fun p => p.1 = a)).map (·.2.get k)).getD 0 + fin.get a k
      = count intervals.flatten a k := by
  have aux := pipeline_aux limit a k intervals hno
  generalize publish limit intervals = p at aux
  obtain ⟨q, fin⟩ := p
  simp only at aux ⊢
  rw [Rough.Lemmas.Stats.merge]
  exact aux

end Rough.Lemmas.Extra
