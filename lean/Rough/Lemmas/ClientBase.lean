import Rough.Model.Client
import Rough.Lemmas.Resp
import Rough.Lemmas.Shapes
/-
  The client model step by step: one iff per kind of step of its `Res` chain, that a value of a decoded
  message is shorter than its input (so the two decoders agree on nested messages, `ref_agree`), the
  client's Merkle check against the reference climb, and `receive_response` against the frame check of
  `RT.authentic`.
-/
namespace Rough.Lemmas.Client
open Rough Rough.Spec Rough.Spec.RT Rough.Client Rough.Merkle Rough.ServerSpec Rough.Lemmas Rough.Lemmas.SpecRT
open Rough.Lemmas.RT

/-! ### stages of the client's `Res` chain

  Used like the stages of the reference verifier (see RespVerify): `obtain ⟨v, hv, h⟩ := stage.mp h`
  takes the head step off a successful chain, `stage.mpr ⟨v, hv, ?_⟩` passes it. -/
section stages
variable {β : Type} {b : β}

theorem field_eq_ok {site : String} {m : Msg} {t : Tag} {v : Bytes} : field site m t = .ok v ↔ m.get t = some v := by
  unfold field
  cases m.get t with
  | none => exact ⟨nofun, nofun⟩
  | some w => exact ⟨fun h => congrArg some (Res.ok.inj h), fun h => congrArg Res.ok (Option.some.inj h)⟩

theorem fromBytesUnwrap_eq_ok {site : String} {v : Bytes} {m : Msg} :
    fromBytesUnwrap site v = .ok m ↔ fromBytes v = .ok m := by
  unfold fromBytesUnwrap
  cases fromBytes v with
  | ok m' => exact Iff.rfl
  | err => exact ⟨nofun, nofun⟩
  | panic s => exact ⟨nofun, nofun⟩

theorem field_bind_ok {site : String} {m : Msg} {t : Tag} {k : Bytes → Res β} :
    (field site m t).bind k = .ok b ↔ ∃ v, m.get t = some v ∧ k v = .ok b := by
  simp only [Res.bind_eq_ok, field_eq_ok]

theorem parse_bind_ok {site : String} {v : Bytes} {k : Msg → Res β} :
    (fromBytesUnwrap site v).bind k = .ok b ↔ ∃ m, fromBytes v = .ok m ∧ k m = .ok b := by
  simp only [Res.bind_eq_ok, fromBytesUnwrap_eq_ok]

theorem readU64_bind_ok {site : String} {v : Bytes} {k : Nat → Res β} :
    (readU64 site v).bind k = .ok b ↔ 8 ≤ v.length ∧ k (u64le v) = .ok b := by
  unfold readU64
  split
  · exact ⟨nofun, fun h => by omega⟩
  · exact ⟨fun h => ⟨by omega, h⟩, fun h => h.2⟩

theorem readU32_bind_ok {site : String} {v : Bytes} {k : Nat → Res β} :
    (readU32 site v).bind k = .ok b ↔ 4 ≤ v.length ∧ k (u32le v) = .ok b := by
  unfold readU32
  split
  · exact ⟨nofun, fun h => by omega⟩
  · exact ⟨fun h => ⟨by omega, h⟩, fun h => h.2⟩

theorem panic_ite_ok {c : Prop} [Decidable c] {s : String} {k : Res β} :
    (if c then .panic s else k) = .ok b ↔ ¬ c ∧ k = .ok b :=
  ite_eq_iff_of_ne nofun

theorem validateSig_bind_ok {S : SigScheme} {pk sig data : Bytes} {k : Bool → Res β} :
    (validateSig S pk sig data).bind k = .ok b ↔
      pk.length = 32 ∧ S.pkValid pk = true ∧ sig.length = 64 ∧ k (S.verify pk data sig) = .ok b := by
  unfold validateSig Verifier.new
  simp only [Res.ite_bind, Res.bind_panic, Res.bind_ok, panic_ite_ok, Verifier.verify, Verifier.update, List.nil_append,
    ne_eq, Decidable.not_not, Bool.not_eq_true, Bool.not_eq_false]

end stages

theorem get_length_le {b : Bytes} {m : Msg} {t : Tag} {v : Bytes} (h : fromBytes b = .ok m)
    (hg : m.get t = some v) : v.length + 4 ≤ b.length := by
  have h1 := field_le_msgBytes m _ (get_mem_fields hg)
  have h2 := msgBytes_decoded h
  simp only at h1
  omega

theorem framing_eq_magic : framing = magic := rfl

/-- the `MerkleCfg` literal of the client -/
def clientCfg (H : Bytes → Bytes) (ver : Version) : MerkleCfg :=
  match ver with | .google => ⟨H, 64⟩ | .ietf => ⟨fun x => (H x).take 32, 32⟩

theorem clientCfg_eq (H : Bytes → Bytes) (ver : Version) : clientCfg H ver = mcfg H (protoOfVer ver) := by
  cases ver <;> rfl

/-- a draft-13 node is a truncated hash: never longer than the node width, whatever `H` is -/
theorem climbChunks_draft13_le (H : Bytes → Bytes) : ∀ (ps : List Bytes) (h : Bytes) (i : Nat), h.length ≤ 32 →
    (climbChunks (mcfg H .draft13) h i ps).length ≤ 32
  | [], _, _, hh => hh
  | _ :: ps, _, _, _ => climbChunks_draft13_le H ps _ _ (by split <;> exact List.length_take_le 32 _)

theorem rootFromPaths_eq_ok {H : Bytes → Bytes} {ver : Version} {index : Nat} {leaf paths hash : Bytes} :
    rootFromPaths (mcfg H (protoOfVer ver)) ver.isIetf index leaf paths = .ok hash ↔
      paths.length % nodeWidth (protoOfVer ver) = 0 ∧
      climb H (protoOfVer ver) (RT.hash H (protoOfVer ver) ((0x00 : UInt8) :: leaf)) index
        (chunks (nodeWidth (protoOfVer ver)) paths) = hash ∧
      (ver = .ietf → 32 ≤ hash.length) := by
  rw [rootFromPaths, mcfg_N, if_neg (Nat.pos_iff_ne_zero.mp (nodeWidth_pos _)), climb_eq_climbChunks]
  by_cases hm : paths.length % nodeWidth (protoOfVer ver) = 0
  · rw [if_neg (not_not_intro hm)]
    cases ver with
    | google => exact ⟨fun h => ⟨hm, Res.ok.inj h, nofun⟩, fun h => congrArg Res.ok h.2.1⟩
    | ietf =>
      -- `finalize` slices `[0..32]`: a panic if the climbed value is shorter, and the identity otherwise, because a
      -- draft-13 node is never longer than 32
      have ht := List.take_of_length_le (climbChunks_draft13_le H (chunks 32 paths)
        (RT.hash H .draft13 ((0x00 : UInt8) :: leaf)) index (List.length_take_le 32 _))
      rw [show Version.ietf.isIetf = true from rfl, Lemmas.Merkle.finalize_true_eq_ok]
      exact ⟨fun ⟨h32, e⟩ => ⟨hm, ht.symm.trans e, fun _ => e ▸ ht.symm ▸ h32⟩,
        fun ⟨_, e, h⟩ => ⟨e ▸ h rfl, ht.trans e⟩⟩
  · rw [if_pos hm]
    exact ⟨nofun, fun h => absurd h.1 hm⟩

theorem receiveResponse_eq_ok {ver : Version} {dg : Bytes} (hdg : dg.length ≤ 4096) {m : Msg} :
    receiveResponse ver dg = .ok m ↔
      ∃ body, aframe (protoOfVer ver) dg = some body ∧ (ver = .ietf → u32le (dg.drop 8) ≤ 4096 - 12) ∧
        fromBytes body = .ok m := by
  unfold receiveResponse
  simp only [List.take_of_length_le hdg]
  cases ver with
  | google =>
    simp only [protoOfVer, aframe, Option.some.injEq, reduceCtorEq, false_imp_iff, true_and, exists_eq_left']
    exact fromBytesUnwrap_eq_ok
  | ietf =>
    -- `buf[12..len]` on the one side, the frame check on the other insist on the 12 header bytes; given those, the
    -- zero-padded buffer agrees with the datagram wherever it is read
    have hs (body : Bytes) : slice (dg ++ zeros (4096 - dg.length)) 12 dg.length "client:receive_response:buf[12..buf_len]"
        = .ok body ↔ 12 ≤ dg.length ∧ dg.drop 12 = body := by
      unfold slice
      by_cases h12 : 12 ≤ dg.length
      · rw [if_pos ⟨h12, by simp⟩, List.drop_append_of_le_length h12, List.take_append_of_le_length (by simp),
          List.take_of_length_le (by simp)]
        exact ⟨fun h => ⟨h12, Res.ok.inj h⟩, fun h => congrArg Res.ok h.2⟩
      · rw [if_neg fun h => h12 h.1]
        exact ⟨nofun, fun h => absurd h.1 h12⟩
    have h8 (h12 : 12 ≤ dg.length) : (dg ++ zeros (4096 - dg.length)).take 8 = dg.take 8 :=
      List.take_append_of_le_length (by omega)
    have hr (h12 : 12 ≤ dg.length) : rd32 ((dg ++ zeros (4096 - dg.length)).drop 8) = u32le (dg.drop 8) := by
      rw [List.drop_append_of_le_length (by omega), rd32, List.take_append_of_le_length (by simp; omega)]; rfl
    simp only [protoOfVer, aframe, true_imp_iff, panic_ite_ok, Res.bind_eq_ok, fromBytesUnwrap_eq_ok, hs]
    constructor
    · rintro ⟨hm, hl, body, ⟨h12, rfl⟩, hf⟩
      exact ⟨_, if_pos ⟨h12, h8 h12 ▸ Decidable.not_not.mp hm⟩, hr h12 ▸ Nat.le_of_not_lt hl, hf⟩
    · rintro ⟨body, hb, hl, hf⟩
      split at hb
      · rename_i h
        cases hb
        exact ⟨not_not_intro ((h8 h.1).symm ▸ h.2), Nat.not_lt.mpr ((hr h.1).symm ▸ hl), _, ⟨h.1, rfl⟩, hf⟩
      · cases hb

theorem aframe_length_le {p : Proto} {dg body : Bytes} (h : aframe p dg = some body) : body.length ≤ dg.length := by
  cases p with
  | classic => cases h; exact Nat.le_refl _
  | draft13 =>
    simp only [aframe] at h
    split at h
    · cases h; simp
    · cases h

end Rough.Lemmas.Client
