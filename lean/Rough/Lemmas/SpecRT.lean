import Rough.Spec.Roughtime
import Rough.Lemmas.Codec
import Rough.Lemmas.Merkle
/-
  What the proofs about the reference protocol `Spec.RT` share: its little-endian readers on `le32` / `le64`, its
  Merkle configuration `mcfg`, version lists, and what `unframe` checks.
-/
namespace Rough.Lemmas.SpecRT
open Rough Rough.Spec Rough.Spec.RT Rough.Spec.MT Rough.Merkle

theorem u32le_le32 (n : Nat) (h : n < 2 ^ 32) : u32le (le32 n) = n := (rd32_le32 n).trans (Nat.mod_eq_of_lt h)

@[simp] theorem le64_length (n : Nat) : (le64 n).length = 8 := rfl

theorem u64le_le64 (n : Nat) (h : n < 2 ^ 64) : u64le (le64 n) = n := by
  rw [u64le, List.take_of_length_le (Nat.le_of_eq (le64_length n)), leVal_le64]; exact Nat.mod_eq_of_lt h

theorem leVal_le32_take (n : Nat) (h : n < 2 ^ 32) : leVal ((le32 n).take 4) = n := u32le_le32 n h
theorem leVal_le64_take (n : Nat) (h : n < 2 ^ 64) : leVal ((le64 n).take 8) = n := u64le_le64 n h
theorem rd64_le64 (n : Nat) (h : n < 2 ^ 64) : rd64 (le64 n) = n := u64le_le64 n h

theorem depth_le_6 (n : Nat) (h : n ≤ 64) : depth n ≤ 6 := Lemmas.Merkle.depth_le_of_le_pow 6 n (by omega)

theorem mcfg_hashLen (H : Bytes → Bytes) (hH : ∀ x, (H x).length = 64) (p : Proto) : HashLen (mcfg H p) := by
  intro x
  cases p <;> simp [mcfg, RT.hash, nodeWidth, hH]

theorem mcfg_N (H : Bytes → Bytes) (p : Proto) : (mcfg H p).N = nodeWidth p := rfl

theorem nodeWidth_pos (p : Proto) : 0 < nodeWidth p := by cases p <;> decide

theorem nodeWidth_le (p : Proto) : nodeWidth p ≤ 64 ∧ nodeWidth p % 4 = 0 := by cases p <;> decide

theorem climb_eq_climbChunks (H : Bytes → Bytes) (p : Proto) :
    ∀ (es : List Bytes) (h : Bytes) (i : Nat),
      RT.climb H p h i es = climbChunks (mcfg H p) h i es := by
  intro es
  induction es with
  | nil => intro h i; rfl
  | cons e es ih =>
    intro h i
    simp only [RT.climb, climbChunks, ih]
    rfl

theorem versionList_flatten (l : List Bytes) (h : ∀ x ∈ l, x.length = 4) : versionList l.flatten = l := by
  rw [versionList, Lemmas.chunks_flatten_of 4 (by decide) l h, List.filter_eq_self]
  exact fun x hx => decide_eq_true (h x hx)

theorem versionList_ver13 : versionList ver13 = [ver13] := versionList_flatten [ver13] (by decide)

theorem ver13_mem : ver13 ∈ versionList ([0, 0, 0, 0] ++ ver13) :=
  versionList_flatten [[0, 0, 0, 0], ver13] (by decide) ▸ List.mem_cons_of_mem _ List.mem_cons_self

theorem unframe_eq_some {d b : Bytes} :
    unframe d = some b ↔ 12 ≤ d.length ∧ d.take 8 = magic ∧ u32le (d.drop 8) = d.length - 12 ∧ d.drop 12 = b := by
  simp only [unframe, Option.ite_none_left_eq_some, Option.some.injEq, Nat.not_lt, ne_eq, Decidable.not_not]

theorem unframe_frame (b : Bytes) (h : b.length < 2 ^ 32) :
    unframe (magic ++ le32 b.length ++ b) = some b := by
  have hl : (magic ++ le32 b.length ++ b).length = 12 + b.length := by
    rw [List.length_append, List.length_append, le32_length]; rfl
  have h8 : (magic ++ le32 b.length ++ b).drop 8 = le32 b.length ++ b := by
    rw [List.append_assoc]; exact List.drop_left' rfl
  refine unframe_eq_some.mpr ⟨by omega, by rw [List.append_assoc]; exact List.take_left' rfl, ?_, List.drop_left' rfl⟩
  rw [h8, hl]
  exact (rd32_le32_append _ _).trans ((Nat.mod_eq_of_lt h).trans (Nat.add_sub_cancel_left ..).symm)

end Rough.Lemmas.SpecRT
