import Rough.Model.Client
import Rough.Lemmas.Request
import Rough.Lemmas.Shapes
import Rough.Lemmas.SpecRT
/-
  C03, request side: the requests the client generates are well formed (`request_wellformed`).  `make_request` builds
  its message twice to pad it to 1024 bytes (`build_padded`); a message of that size with the protocol's fields is
  read back by the reference decoder and classified `must`.
-/
namespace Rough.Lemmas.Client
open Rough Rough.Spec Rough.Spec.RT Rough.Client Rough.Merkle Rough.ServerSpec Rough.Lemmas Rough.Lemmas.SpecRT
open Rough.Lemmas.Keys (buildMsg_sorted)
open Rough.Lemmas.Shape (decode_encode_mk)


/-- an encoding starts with its field count, and `magic` read as a count is far above 255 -/
theorem encode_take8_ne_magic (m : Msg) (h : m.fields.length < 256) : (encode m).take 8 ≠ magic := by
  intro e
  have h1 : rd32 ((encode m).take 8) = m.fields.length % 4294967296 := by
    rw [rd32, List.take_take, encode_eq]; exact rd32_le32_append _ _
  rw [e, show rd32 magic = 1196773202 from rfl] at h1
  omega

/-- `fs v` is the field list with padding value `v`: built with an empty padding to measure it, then with the padding -/
theorem build_padded {α} (site : String) (fs : Bytes → List (Tag × Bytes)) (pad : Nat) (k : Msg → Res α)
    (hs : ∀ v, ((fs v).map (·.1)).Pairwise (fun a b => a.idx < b.idx)) (hp : paddingLength ⟨fs []⟩ = pad) :
    ((buildMsg site (fs [])).bind fun m0 => (buildMsg site (fs (zeros (paddingLength m0)))).bind k) =
      k ⟨fs (zeros pad)⟩ := by
  rw [buildMsg_sorted _ _ (hs _), Res.bind_ok_s, hp, buildMsg_sorted _ _ (hs _), Res.bind_ok_s]

theorem wellformed_google (H : Bytes → Bytes) (nonce : Bytes) (hn : nonce.length = 64) (pk? : Option Bytes)
    (srv : Bytes) :
    ∃ req, makeRequest H .google nonce pk? = .ok req ∧ req.length = 1024 ∧
      classifyRequest .classic srv req = .must nonce ∧ protoOf req = .classic := by
  let m : Msg := ⟨[(Tag.NONC, nonce), (Tag.PAD, zeros 944)]⟩
  have hmk : makeRequest H .google nonce pk? = .ok (encode m) := by
    unfold makeRequest
    exact build_padded _ (fun v => [(Tag.NONC, nonce), (Tag.PAD, v)]) 944 _ (fun _ => by tags_sorted)
      (by simp [paddingLength, encodedSize, Msg.values, hn])
  have hsz : encodedSize m = 1024 := by simp [m, encodedSize, Msg.values, hn]
  have hl : (encode m).length = 1024 := by rw [encode_length, hsz]
  have hm := encode_take8_ne_magic m (by show 2 < 256; decide)
  have hd : decode (encode m) = some m := decode_encode_mk _ (by tags_sorted) (by simp [hn]) (by rw [hsz]; omega)
  exact ⟨_, hmk, hl, Lemmas.Request.must_classic.mpr ⟨by omega, hm, m, hd, rfl, hn⟩,
    Lemmas.Request.protoOf_classic hm⟩

theorem framed_wellformed (m : Msg) (srv nonce : Bytes) (hlen : (encode m).length = 1024)
    (hd : decode (encode m) = some m) (hv : m.get Tag.VER = some ver13) (hn : m.get Tag.NONC = some nonce)
    (hnl : nonce.length = 32) (hs : m.get Tag.SRV = none ∨ m.get Tag.SRV = some srv) :
    (encodeFramed m).length = 1036 ∧ classifyRequest .draft13 srv (encodeFramed m) = .must nonce ∧
      protoOf (encodeFramed m) = .draft13 := by
  have hl : (encodeFramed m).length = 1036 := by rw [(framed m).2, hlen]
  have hu : unframe (encodeFramed m) = some (encode m) := unframe_frame (encode m) (by omega)
  have h8 : (encodeFramed m).take 8 = magic := by rw [encodeFramed, List.append_assoc]; exact List.take_left' rfl
  exact ⟨hl, Lemmas.Request.must_draft13.mpr
    ⟨by omega, _, m, ver13, hu, hd, hv, by rw [versionList_ver13]; rfl, hs, hn, hnl⟩, Lemmas.Request.protoOf_draft13 h8⟩

theorem wellformed_ietf (H : Bytes → Bytes) (hH : ∀ x, (H x).length = 64) (nonce : Bytes)
    (hn : nonce.length = 32) (pk? : Option Bytes) (srv : Bytes)
    (hsrv : ∀ pk, pk? = some pk → srv = (H ((0xff : UInt8) :: pk)).take 32) :
    ∃ req, makeRequest H .ietf nonce pk? = .ok req ∧ req.length = 1036 ∧
      classifyRequest .draft13 srv req = .must nonce ∧ protoOf req = .draft13 := by
  cases pk? with
  | none =>
    let m : Msg := ⟨[(Tag.VER, Version.ietf.wire), (Tag.NONC, nonce), (Tag.ZZZZ, zeros 964)]⟩
    have hmk : makeRequest H .ietf nonce none = .ok (encodeFramed m) := by
      unfold makeRequest
      -- `bind_ok_s`, not the definitional `bind_ok`: see its comment (the kernel would evaluate the `buildMsg` behind it)
      simp only [Res.bind_ok_s, List.cons_append, List.nil_append]
      exact build_padded _ (fun v => [(Tag.VER, Version.ietf.wire), (Tag.NONC, nonce), (Tag.ZZZZ, v)]) 964 _
        (fun _ => by tags_sorted) (by simp [paddingLength, encodedSize, Msg.values, hn, Version.wire])
    have hsz : encodedSize m = 1024 := by simp [m, encodedSize, Msg.values, hn, Version.wire]
    exact ⟨_, hmk, framed_wellformed m srv nonce (by rw [encode_length, hsz])
      (decode_encode_mk _ (by tags_sorted) (by simp [hn, Version.wire]) (by rw [hsz]; omega)) rfl rfl hn (.inl rfl)⟩
  | some pk =>
    have hsrv' := hsrv pk rfl
    have hsl : srv.length = 32 := by rw [hsrv', List.length_take, hH]; rfl
    let m : Msg := ⟨[(Tag.VER, Version.ietf.wire), (Tag.SRV, srv), (Tag.NONC, nonce), (Tag.ZZZZ, zeros 924)]⟩
    have hmk : makeRequest H .ietf nonce (some pk) = .ok (encodeFramed m) := by
      unfold makeRequest
      simp only [Keys.calcSrv_ok H pk (by rw [hH]; omega), ← hsrv', Res.bind_ok_s, List.cons_append, List.nil_append]
      exact build_padded _ (fun v => [(Tag.VER, Version.ietf.wire), (Tag.SRV, srv), (Tag.NONC, nonce), (Tag.ZZZZ, v)])
        924 _ (fun _ => by tags_sorted) (by simp [paddingLength, encodedSize, Msg.values, hn, hsl, Version.wire])
    have hsz : encodedSize m = 1024 := by simp [m, encodedSize, Msg.values, hn, hsl, Version.wire]
    exact ⟨_, hmk, framed_wellformed m srv nonce (by rw [encode_length, hsz])
      (decode_encode_mk _ (by tags_sorted) (by simp [hn, hsl, Version.wire]) (by rw [hsz]; omega)) rfl rfl hn (.inr rfl)⟩

/-- **C03_request_wellformed**. A classic request is 1024 bytes; a draft-13 request is a 1024-byte
    message plus the 12-byte frame = 1036 bytes (`paddingLength` pads the unframed message to 1024,
    `encodeFramed` then adds the frame). -/
theorem request_wellformed (H : Bytes → Bytes) (hH : ∀ x, (H x).length = 64) (ver : Version)
    (nonce : Bytes) (hn : nonce.length = ver.nonceLen) (pk? : Option Bytes) (srv : Bytes)
    (hsrv : ∀ pk, pk? = some pk → srv = (H ((0xff : UInt8) :: pk)).take 32) :
    ∃ req, makeRequest H ver nonce pk? = .ok req ∧
      req.length = (match ver with | .google => 1024 | .ietf => 1036) ∧
      classifyRequest (protoOfVer ver) srv req = .must nonce ∧ protoOf req = protoOfVer ver := by
  cases ver with
  | google => exact wellformed_google H nonce hn pk? srv
  | ietf => exact wellformed_ietf H hH nonce hn pk? srv hsrv

end Rough.Lemmas.Client
