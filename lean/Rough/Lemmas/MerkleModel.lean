import Rough.Lemmas.MerkleSpec
import Rough.Lemmas.Res
/-
  Refinement: the level-vector model of Model/Merkle.lean computes the level lists of MerkleSpec.
  While `compute_root` runs, the vector is `low ++ cur :: replicate m []`: the finished (padded) levels, the level
  being hashed at index `low.length`, and the cleared levels that `reset` kept.  Written that way, each loop is an
  equation between level vectors (`iterM_spec`, `rootLoop_spec`, `pathsLoop_spec`), and so are `compute_root` and
  `get_paths` on one batch (`computeRoot_spec`, `getPaths_spec`).
-/
namespace Rough.Lemmas.Merkle
open Rough Rough.Merkle Rough.Spec.MT

theorem bind_panic {α β} (s : String) (f : α → Res β) : (Res.panic s : Res α).bind f = .panic s := Res.bind_panic s f

theorem pushLeaf_cons (c : MerkleCfg) (l0 : List Bytes) (rest : List (List Bytes)) (d : Bytes) :
    pushLeaf c ⟨l0 :: rest⟩ d = .ok ⟨(l0 ++ [hashLeaf c d]) :: rest⟩ := rfl

theorem pushAll_cons (c : MerkleCfg) (rest : List (List Bytes)) : ∀ (leaves : List Bytes) (l0 : List Bytes),
    pushAll c ⟨l0 :: rest⟩ leaves = .ok ⟨(l0 ++ leaves.map (hashLeaf c)) :: rest⟩ := by
  intro leaves
  induction leaves with
  | nil => intro l0; simp [pushAll]
  | cons d ds ih =>
    intro l0
    have := ih (l0 ++ [hashLeaf c d])
    rw [pushAll] at this ⊢
    rw [List.foldl_cons, Res.bind_ok, pushLeaf_cons, this, List.map_cons, List.append_assoc, List.singleton_append]

theorem reset_pushAll (c : MerkleCfg) (t : Tree) (ht : t.levels ≠ []) (leaves : List Bytes) :
    pushAll c (reset t) leaves
      = .ok ⟨leaves.map (hashLeaf c) :: List.replicate (t.levels.length - 1) []⟩ := by
  obtain ⟨ls⟩ := t
  cases ls with
  | nil => exact absurd rfl ht
  | cons l rest => simp [reset, pushAll_cons, List.map_const']

theorem idx_lt {α} (l : List α) (i : Nat) (s : String) (h : i < l.length) : idx l i s = .ok l[i] := by
  simp [idx, h]

theorem idx_append {α} (low : List α) (x : α) (rest : List α) (s : String) :
    idx (low ++ x :: rest) low.length s = .ok x := by
  simp [idx]

theorem modifyLevel_append (low : List (List Bytes)) (x : List Bytes) (rest : List (List Bytes))
    (f : List Bytes → List Bytes) (s : String) :
    modifyLevel (low ++ x :: rest) low.length f s = .ok (low ++ f x :: rest) := by
  simp [modifyLevel]

theorem modifyLevel_append_succ (low : List (List Bytes)) (x y : List Bytes) (rest : List (List Bytes))
    (f : List Bytes → List Bytes) (s : String) :
    modifyLevel (low ++ x :: y :: rest) (low.length + 1) f s = .ok (low ++ x :: f y :: rest) := by
  simpa using modifyLevel_append (low ++ [x]) y rest f s

theorem set_append {α} (low : List α) (x y : α) (rest : List α) :
    (low ++ x :: rest).set low.length y = low ++ y :: rest := by
  simp

theorem pushParents_succ (c : MerkleCfg) (ls : List (List Bytes)) (level i k : Nat) :
    pushParents c ls level i (k + 1)
      = (pushParents c ls level i 1).bind fun ls' => pushParents c ls' level (i + 1) k := by
  simp only [pushParents, Res.bind_assoc, Res.bind_ok]

theorem pairUp_drop (c : MerkleCfg) (l : List Bytes) (i k : Nat) (h : (i + (k + 1)) * 2 ≤ l.length) :
    pairUp c ((l.drop (2 * i)).take (2 * (k + 1)))
      = hashNodes c (l[i * 2]'(by omega)) (l[i * 2 + 1]'(by omega))
          :: pairUp c ((l.drop (2 * (i + 1))).take (2 * k)) := by
  have h0 : 2 * i < l.length := by omega
  have h1 : 2 * i + 1 < l.length := by omega
  rw [List.drop_eq_getElem_cons h0, List.drop_eq_getElem_cons h1, Nat.mul_succ 2 k]
  simp only [List.take_succ_cons, pairUp, Nat.mul_comm 2 i, Nat.mul_succ]

theorem pushParents_spec (c : MerkleCfg) (low : List (List Bytes)) (below : List Bytes)
    (rest : List (List Bytes)) : ∀ (k i : Nat) (cur : List Bytes), (i + k) * 2 ≤ below.length →
      pushParents c (low ++ below :: cur :: rest) (low.length + 1) i k
        = .ok (low ++ below :: (cur ++ pairUp c ((below.drop (2 * i)).take (2 * k))) :: rest) := by
  intro k
  induction k with
  | zero => intro i cur _; simp [pushParents, pairUp]
  | succ k ih =>
    intro i cur hb
    rw [pushParents, Nat.add_sub_cancel, idx_append, Res.bind_ok, idx_lt _ _ _ (by omega), Res.bind_ok,
      idx_lt _ _ _ (by omega), Res.bind_ok, modifyLevel_append_succ, Res.bind_ok, ih _ _ (by omega),
      pairUp_drop c below i k hb, List.append_assoc]
    rfl

/-- one iteration of the `while node_count > 1` loop of `compute_root` on a level vector that has a level `lv + 1`:
    pad level `lv` if its node count is odd, push the parents; returns the new levels and node count -/
def iterBody (c : MerkleCfg) (ls : List (List Bytes)) (lv nc : Nat) : Res (List (List Bytes) × Nat) :=
  (if nc % 2 ≠ 0 then
      (modifyLevel ls lv (· ++ [zeros c.N]) "merkle.rs:compute_root:levels[level-1].push").bind
        fun l => Res.ok (l, nc + 1)
    else Res.ok (ls, nc)).bind fun p =>
  (pushParents c p.1 (lv + 1) 0 (p.2 / 2)).bind fun ls' => Res.ok (ls', p.2 / 2)

/-- the whole iteration: level `lv + 1` is appended first when the vector ends at level `lv` -/
def iterM (c : MerkleCfg) (ls : List (List Bytes)) (lv nc : Nat) : Res (List (List Bytes) × Nat) :=
  iterBody c (if ls.length < lv + 1 + 1 then ls ++ [[]] else ls) lv nc

theorem rootLoop_done (c : MerkleCfg) (fuel : Nat) (ls : List (List Bytes)) (lv nc : Nat)
    (h : nc ≤ 1) : rootLoop c fuel ls lv nc = .ok (ls, lv) := by
  cases fuel <;> simp [rootLoop, Nat.not_lt.mpr h]

theorem rootLoop_succ (c : MerkleCfg) (fuel : Nat) (ls : List (List Bytes)) (lv nc : Nat) (h : 1 < nc) :
    rootLoop c (fuel + 1) ls lv nc = (iterM c ls lv nc).bind fun p => rootLoop c fuel p.1 (lv + 1) p.2 := by
  rw [rootLoop, iterM, iterBody]
  simp only [gt_iff_lt, h, if_true, Res.bind_assoc, Nat.add_sub_cancel, Res.bind_ok]

theorem iterBody_spec (c : MerkleCfg) (low : List (List Bytes)) (cur : List Bytes) (rest : List (List Bytes)) :
    iterBody c (low ++ cur :: [] :: rest) low.length cur.length
      = .ok (low ++ padLevel c cur :: up c cur :: rest, (up c cur).length) := by
  -- either way the node count after padding is the length of the padded level
  have hpad : ∀ s, (if cur.length % 2 ≠ 0 then
        (modifyLevel (low ++ cur :: [] :: rest) low.length (· ++ [zeros c.N]) s).bind fun l => Res.ok (l, cur.length + 1)
      else Res.ok (low ++ cur :: [] :: rest, cur.length))
      = .ok (low ++ padLevel c cur :: [] :: rest, (padLevel c cur).length) := by
    intro s
    unfold padLevel
    split
    · rw [modifyLevel_append, Res.bind_ok, List.length_append, List.length_singleton]
    · rfl
  have hlen := padLevel_length c cur
  rw [iterBody, hpad, Res.bind_ok, hlen, Nat.mul_div_cancel_left _ (by omega : 0 < 2),
    pushParents_spec c low _ _ _ 0 [] (by omega), Res.bind_ok, Nat.mul_zero, List.drop_zero,
    List.take_of_length_le (by omega), List.nil_append, ← up_eq_pairUp]

theorem iterM_spec (c : MerkleCfg) (low : List (List Bytes)) (cur : List Bytes) (m : Nat) :
    iterM c (low ++ cur :: List.replicate m []) low.length cur.length
      = .ok (low ++ padLevel c cur :: up c cur :: List.replicate (m - 1) [], (up c cur).length) := by
  -- afterwards there is a level above `cur`: the cleared one that was there, or a new one
  have hext : (if (low ++ cur :: List.replicate m []).length < low.length + 1 + 1
        then low ++ cur :: List.replicate m [] ++ [[]] else low ++ cur :: List.replicate m [])
      = low ++ cur :: [] :: List.replicate (m - 1) [] := by
    cases m <;> simp [List.replicate_succ] <;> omega
  rw [iterM, hext, iterBody_spec]

/-- the `k` padded levels from `l` upwards: what `compute_root` leaves below the top level -/
def padded (c : MerkleCfg) : Nat → List Bytes → List (List Bytes)
  | 0, _ => []
  | k + 1, l => padLevel c l :: padded c k (up c l)

theorem padded_length (c : MerkleCfg) (k : Nat) (l : List Bytes) : (padded c k l).length = k := by
  induction k generalizing l with
  | zero => rfl
  | succ k ih => simp [padded, ih]

theorem rootLoop_spec (c : MerkleCfg) : ∀ (fuel : Nat) (low : List (List Bytes)) (cur : List Bytes) (m : Nat),
    cur.length ≤ fuel + 1 →
    rootLoop c fuel (low ++ cur :: List.replicate m []) low.length cur.length
      = .ok (low ++ padded c (depth cur.length) cur
              ++ lv c (depth cur.length) cur :: List.replicate (m - depth cur.length) [],
             (low ++ padded c (depth cur.length) cur).length) := by
  intro fuel
  induction fuel with
  | zero =>
    intro low cur m hf
    rw [rootLoop_done c _ _ _ _ hf, depth_le_one _ hf]; simp [padded, lv]
  | succ fuel ih =>
    intro low cur m hf
    by_cases h1 : cur.length ≤ 1
    · rw [rootLoop_done c _ _ _ _ h1, depth_le_one _ h1]; simp [padded, lv]
    · have hup := up_length c cur
      have := ih (low ++ [padLevel c cur]) (up c cur) (m - 1) (by omega)
      rw [List.length_append, List.length_singleton, List.append_assoc, List.singleton_append] at this
      rw [rootLoop_succ c _ _ _ _ (by omega), iterM_spec, Res.bind_ok, this, depth_step cur.length (by omega),
        ← hup, Nat.add_comm 1, padded, lv, Nat.sub_sub, Nat.add_comm 1]
      simp only [List.append_assoc, List.cons_append, List.nil_append]

theorem sibling_read (c : MerkleCfg) (l : List Bytes) (i : Nat) (hi : i < l.length) (s s' : String) :
    ((if i % 2 = 0 then Res.ok (i + 1) else csub i 1 s).bind fun sib => idx (padLevel c l) sib s')
      = .ok (sibOf c l i) := by
  have hsib : (if i % 2 = 0 then Res.ok (i + 1) else csub i 1 s) = .ok (if i % 2 = 0 then i + 1 else i - 1) := by
    split
    · rfl
    · exact if_pos (by omega)
  have hlen := padLevel_length c l
  have hup := up_length c l
  rw [hsib, Res.bind_ok, idx, padLevel_getElem? c l _ (by split <;> omega)]
  rfl

theorem pathsLoop_spec (c : MerkleCfg) (rest : List (List Bytes)) :
    ∀ (k fuel index : Nat) (low : List (List Bytes)) (cur : List Bytes), k ≤ fuel → index < cur.length →
      pathsLoop (low ++ padded c k cur ++ [] :: rest) (fuel + 1) low.length index
        = .ok ((pathL c k cur index).flatten, low.length + k) := by
  intro k
  induction k with
  | zero =>
    intro fuel index low cur _ _
    rw [pathsLoop, padded, List.append_nil, idx_append, Res.bind_ok]
    rfl
  | succ k ih =>
    intro fuel index low cur hf hi
    obtain ⟨f, rfl⟩ := Nat.exists_eq_add_one_of_ne_zero (Nat.ne_zero_of_lt hf)
    have hne : (padLevel c cur).isEmpty = false := by
      rw [List.isEmpty_eq_false_iff, ← List.length_pos_iff, padLevel_length]
      have := up_length c cur
      omega
    have hrest := ih f (index / 2) (low ++ [padLevel c cur]) (up c cur) (Nat.le_of_succ_le_succ hf)
      (by rw [up_length]; omega)
    rw [List.length_append, List.length_singleton, List.append_assoc, List.append_assoc,
      List.singleton_append] at hrest
    rw [pathsLoop, padded, List.append_assoc, List.cons_append, idx_append, Res.bind_ok, hne, if_neg nofun,
      ← Res.bind_assoc, sibling_read c cur index hi, Res.bind_ok, hrest, Res.bind_ok, pathL, List.flatten_cons,
      Nat.add_assoc, Nat.add_comm 1 k]

/-- the level vector that `compute_root` leaves behind for the batch whose leaf hashes are `l`, in a tree object
    that had `m` further (cleared) levels: the padded levels, the popped top level, what is left of the old ones -/
def finished (c : MerkleCfg) (l : List Bytes) (m : Nat) : List (List Bytes) :=
  padded c (depth l.length) l ++ [] :: List.replicate (m - depth l.length) []

theorem finished_ne_nil (c : MerkleCfg) (l : List Bytes) (m : Nat) : finished c l m ≠ [] := by
  simp [finished]

theorem computeRoot_spec (c : MerkleCfg) (ietf : Bool) (l : List Bytes) (hne : l ≠ []) (m : Nat) (root : Bytes)
    (hroot : lv c (depth l.length) l = [root]) (hfin : finalize ietf root = .ok root) :
    computeRoot c ietf ⟨l :: List.replicate m []⟩ = .ok (⟨finished c l m⟩, root) := by
  have hrun := rootLoop_spec c l.length [] l m (Nat.le_succ _)
  rw [hroot] at hrun
  simp only [List.nil_append, List.length_nil] at hrun
  have hemp : l.isEmpty = false := List.isEmpty_eq_false_iff.mpr hne
  have h0 : ∀ s, idx (l :: List.replicate m []) 0 s = .ok l := fun _ => rfl
  simp only [computeRoot, h0, Res.bind_ok, hemp, Bool.false_eq_true, if_false, hrun, idx_append, List.length_singleton,
    ne_eq, not_true, List.getLast?_singleton, hfin, set_append, List.dropLast_singleton]
  rfl

/-- the bound is the `assert!(level <= 32)` of `get_paths` -/
theorem getPaths_spec (c : MerkleCfg) (l : List Bytes) (h32 : depth l.length ≤ 32) (m : Nat)
    (i : Nat) (hi : i < l.length) :
    getPaths ⟨finished c l m⟩ i = .ok (pathL c (depth l.length) l i).flatten := by
  have hloop : pathsLoop (finished c l m) ((finished c l m).length + 1) 0 i
      = .ok ((pathL c (depth l.length) l i).flatten, 0 + depth l.length) :=
    pathsLoop_spec c _ (depth l.length) _ i [] l (by simp [finished, padded_length]) hi
  simp only [getPaths, hloop, Res.bind_ok, Nat.zero_add, if_neg (Nat.not_lt.mpr h32)]

end Rough.Lemmas.Merkle
