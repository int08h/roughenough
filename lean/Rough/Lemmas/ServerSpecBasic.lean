import Rough.Spec.ServerSpec
import Rough.Lemmas.Merkle
import Rough.Lemmas.Keys
import Rough.Lemmas.Request
/-
  The vocabulary of Rough/Spec/ServerSpec.lean tied to the model.
-/
namespace Rough.Lemmas.ServerSpec
open Rough Rough.Merkle Rough.Stats Rough.ServerSpec Rough.Spec

theorem ss_srepPrefix (ver : Version) : ver.srepPrefix = RT.srepCtx (protoOfVer ver) := Lemmas.Shape.srepPrefix_ctx ver

theorem ss_magic : RT.magic = framing := rfl

theorem ss_widthOK (E : Env) (ver : Version) : WidthOK (E.mcfg ver) ver.isIetf := by
  cases ver with
  | google => exact ⟨show (0 : Nat) < 64 by decide, by intro h; cases h⟩
  | ietf => exact ⟨show (0 : Nat) < 32 by decide, fun _ => rfl⟩

theorem ss_certOf (E : Env) (K : Keys) (ver : Version) :
    certOf E K ver = encode ⟨[(Tag.SIG, E.S.sign K.seed (RT.deleCtx (protoOfVer ver) ++
                  encode ⟨[(Tag.PUBK, E.S.pk (onlOf K ver)), (Tag.MINT, le64 0), (Tag.MAXT, le64 (2 ^ 64 - 1))]⟩)),
               (Tag.DELE, encode ⟨[(Tag.PUBK, E.S.pk (onlOf K ver)), (Tag.MINT, le64 0), (Tag.MAXT, le64 (2 ^ 64 - 1))]⟩)]⟩ :=
  rfl

theorem ss_certOf_eq (E : Env) (K : Keys) (ver : Version) :
    encode (Lemmas.Keys.certOf E.S ⟨K.seed, []⟩ ver (onlOf K ver)) = certOf E K ver := by
  cases ver <;> rfl

theorem ss_expectedBatch_getElem? (E : Env) (K : Keys) (ver : Version) (now : Nat × Nat)
    (reqs : List (Datagram × Bytes)) (i : Nat) (h : i < reqs.length) :
    (expectedBatch E K ver now reqs)[i]? = some ⟨reqs[i].1.src,
      RT.respond E.S E.H (protoOfVer ver) K.seed (onlOf K ver) (midpVal ver now) (radiOf ver) 0 (2 ^ 64 - 1)
        (reqs.map (leafOf ver)) i reqs[i].2⟩ := by
  simp [expectedBatch, List.getElem?_mapIdx, List.getElem?_eq_getElem h]

theorem ss_expectedBatch_length (E : Env) (K : Keys) (ver : Version) (now : Nat × Nat) (reqs : List (Datagram × Bytes)) :
    (expectedBatch E K ver now reqs).length = reqs.length :=
  List.length_mapIdx

/-- the accepted request of protocol `ver` that a datagram is, if it is one -/
def ss_acc1 (srv : Bytes) (ver : Version) (d : Datagram) : Option (Datagram × Bytes) :=
  match nonceFromRequest d.bytes srv with
  | .ok (n, v) => if v = ver then some (d, n) else none
  | _ => none

theorem ss_accepted_eq (srv : Bytes) (ver : Version) (chunk : List Datagram) :
    accepted srv ver chunk = chunk.filterMap (ss_acc1 srv ver) := by
  induction chunk with
  | nil => rfl
  | cons d ds ih =>
    rw [accepted, List.filterMap_cons, ss_acc1, ← ih]
    cases nonceFromRequest d.bytes srv with
    | ok p => dsimp only; split <;> rfl
    | err => rfl
    | panic s => rfl

theorem ss_acc1_eq_some {srv : Bytes} {ver : Version} {d : Datagram} {x : Datagram × Bytes} :
    ss_acc1 srv ver d = some x ↔ x.1 = d ∧ nonceFromRequest d.bytes srv = .ok (x.2, ver) := by
  unfold ss_acc1
  cases nonceFromRequest d.bytes srv with
  | ok p =>
    by_cases hv : p.2 = ver
    · simp [hv, Prod.ext_iff, eq_comm]
    · simp [hv, Prod.ext_iff]
  | err => simp
  | panic s => simp

theorem ss_mem_accepted {srv : Bytes} {ver : Version} {chunk : List Datagram} {d : Datagram} {n : Bytes} :
    (d, n) ∈ accepted srv ver chunk ↔ d ∈ chunk ∧ nonceFromRequest d.bytes srv = .ok (n, ver) := by
  simp only [ss_accepted_eq, List.mem_filterMap, ss_acc1_eq_some]
  exact ⟨fun ⟨_, hd, e, h⟩ => e ▸ ⟨hd, h⟩, fun ⟨hd, h⟩ => ⟨d, hd, rfl, h⟩⟩

theorem ss_accepted_length (srv : Bytes) (ver : Version) (chunk : List Datagram) :
    (accepted srv ver chunk).length ≤ chunk.length :=
  ss_accepted_eq srv ver chunk ▸ List.length_filterMap_le _ _

theorem ss_accepted_append (srv : Bytes) (ver : Version) (a b : List Datagram) :
    accepted srv ver (a ++ b) = accepted srv ver a ++ accepted srv ver b := by
  simp only [ss_accepted_eq, List.filterMap_append]

theorem ss_nonce_len {d srv n : Bytes} {v : Version} (h : nonceFromRequest d srv = .ok (n, v)) :
    n.length = 64 ∨ n.length = 32 := by
  have := (Lemmas.Request.only_wellformed d srv n v h).2.2.1
  cases v
  · exact Or.inl this
  · exact Or.inr this

theorem ss_accepted_nonce_len (srv : Bytes) (ver : Version) (chunk : List Datagram) :
    ∀ x ∈ accepted srv ver chunk, 4 ≤ x.2.length := by
  intro x hx
  have := ss_nonce_len (ss_mem_accepted.mp hx).2
  omega

theorem ss_expectedSent_length (E : Env) (K : Keys) (s : Server) (p : Server.Pass) :
    (expectedSent E K s p).length = (accepted s.srv .ietf (p.chunk.take s.batchSize)).length +
      (accepted s.srv .google (p.chunk.take s.batchSize)).length := by
  simp only [expectedSent, List.length_append, ss_expectedBatch_length]

theorem ss_expectedSent_congr (E : Env) (K : Keys) (s s' : Server) (hb : s'.batchSize = s.batchSize)
    (hsrv : s'.srv = s.srv) : expectedSent E K s' = expectedSent E K s := by
  funext p; simp only [expectedSent, hb, hsrv]

theorem ss_midpOf_ok (ver : Version) (now : Nat × Nat) (h : clockOK now) :
    midpOf ver now.1 now.2 = .ok (midpVal ver now) := by
  cases ver with
  | ietf => rfl
  | google =>
    have hm : midpOf .google now.1 now.2 = .ok (now.1 * 1000000 + now.2 / 1000) :=
      Lemmas.Keys.midpOf_eq_ok.mpr ⟨by have := h.1; have := h.2; omega, rfl⟩
    rw [midpVal, hm]

end Rough.Lemmas.ServerSpec
