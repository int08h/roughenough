import Rough.Spec.LoopSpec
import Rough.Lemmas.ServerSpec
/-
  What a pass does to the server whatever its state (batch size kept, at most one datagram sent per datagram read), the
  plan of a socket service (bounds, the quiet case), the refinement equation `service_refines`, and the unrepaired
  service in terms of the repaired one.
-/
namespace Rough.Lemmas.Loop
open Rough Rough.EventLoop Rough.LoopSpec Rough.ServerSpec Rough.Stats

theorem lb_bind_err {α β} (f : α → Res β) : (Res.err : Res α).bind f = .err := rfl
theorem lb_bind_panic {α β} (s : String) (f : α → Res β) : (Res.panic s : Res α).bind f = .panic s := rfl

def queued (s : Server) : Nat := s.ietf.requests.length + s.classic.requests.length

theorem add_length (E : Env) (r r' : Responder) (leaf nonce : Bytes) (src : Addr)
    (h : Responder.add E r leaf nonce src = .ok r') : r'.requests.length = r.requests.length + 1 := by
  obtain ⟨t, _, h2⟩ := Res.of_bind_eq_ok h
  cases h2
  simp

theorem collectOne_shape (E : Env) (s : Server) (d : Datagram) (s' : Server) (e : Event)
    (h : Server.collectOne E s d = .ok (s', e)) : s'.batchSize = s.batchSize ∧ queued s' ≤ queued s + 1 := by
  unfold Server.collectOne at h
  split at h
  · obtain ⟨r, h1, h2⟩ := Res.of_bind_eq_ok h
    have := add_length E _ _ _ _ _ h1
    cases h2
    exact ⟨rfl, by simp only [queued]; omega⟩
  · obtain ⟨r, h1, h2⟩ := Res.of_bind_eq_ok h
    have := add_length E _ _ _ _ _ h1
    cases h2
    exact ⟨rfl, by simp only [queued]; omega⟩
  · cases h; exact ⟨rfl, Nat.le_succ _⟩
  · cases h

theorem collect_shape (E : Env) (ds : List Datagram) (s s' : Server) (ev : List Event)
    (h : Server.collect E s ds = .ok (s', ev)) : s'.batchSize = s.batchSize ∧ queued s' ≤ queued s + ds.length := by
  induction ds generalizing s s' ev with
  | nil => cases h; exact ⟨rfl, Nat.le_refl _⟩
  | cons d ds ih =>
    obtain ⟨⟨s1, e⟩, h1, h2⟩ := Res.of_bind_eq_ok h
    obtain ⟨⟨s2, es⟩, h3, h4⟩ := Res.of_bind_eq_ok h2
    obtain ⟨a1, a2⟩ := collectOne_shape E s d s1 e h1
    obtain ⟨b1, b2⟩ := ih s1 s2 es h3
    cases h4
    exact ⟨b1.trans a1, by simp only [List.length_cons]; omega⟩

theorem pass_shape (E : Env) (debug : Bool) (s : Server) (p : Server.Pass) (s' : Server)
    (sent : List Sent) (ev : List Event) (h : Server.pass E debug s p = .ok (s', sent, ev)) :
    s'.batchSize = s.batchSize ∧ sent.length ≤ (p.chunk.take s.batchSize).length := by
  unfold Server.pass at h
  obtain ⟨⟨s1, ev1⟩, h1, h2⟩ := Res.of_bind_eq_ok h
  obtain ⟨⟨rI, sentI, evI⟩, g1, h3⟩ := Res.of_bind_eq_ok h2
  obtain ⟨⟨rC, sentC, evC⟩, g2, h4⟩ := Res.of_bind_eq_ok h3
  obtain ⟨h5, h6⟩ := collect_shape E _ _ _ _ h1
  have h7 : sentI.length = _ := Responder.sendResponses_ok_length g1
  have h8 : sentC.length = _ := Responder.sendResponses_ok_length g2
  cases h4
  simp only [queued, Responder.reset, List.length_nil, Nat.add_zero] at h6
  exact ⟨h5, by simp only [List.length_append]; omega⟩

theorem run_shape (E : Env) (debug : Bool) (ps : List Server.Pass) (s s' : Server)
    (sent : List Sent) (ev : List Event) (h : Server.run E debug s ps = .ok (s', sent, ev)) :
    s'.batchSize = s.batchSize ∧ sent.length ≤ ps.length * s.batchSize := by
  induction ps generalizing s s' sent ev with
  | nil => cases h; exact ⟨rfl, Nat.zero_le _⟩
  | cons p ps ih =>
    obtain ⟨⟨s1, sent1, ev1⟩, h1, h2⟩ := Res.of_bind_eq_ok h
    obtain ⟨⟨s2, sent2, ev2⟩, h3, h4⟩ := Res.of_bind_eq_ok h2
    obtain ⟨a1, a2⟩ := pass_shape E debug s p s1 sent1 ev1 h1
    obtain ⟨b1, b2⟩ := ih s1 s2 sent2 ev2 h3
    cases h4
    rw [a1] at b1 b2
    simp only [List.length_take] at a2
    exact ⟨b1, by simp only [List.length_append, List.length_cons, Nat.succ_mul]; omega⟩

theorem lb_recordAll_nil (r : Recorder) : r.recordAll [] = r := rfl

theorem recordAll_append (r : Recorder) (a b : List Event) :
    r.recordAll (a ++ b) = (r.recordAll a).recordAll b := by
  simp only [Recorder.recordAll, List.foldl_append]

theorem Out.append_assoc (a b c : Out) : (a.append b).append c = a.append (b.append c) := by
  simp only [Out.append, List.append_assoc, Nat.add_assoc]

theorem Out.empty_append (a : Out) : Out.append {} a = a := by
  simp only [Out.append, List.nil_append, Nat.zero_add]

theorem Out.append_empty (a : Out) : Out.append a {} = a := by
  simp only [Out.append, List.append_nil, Nat.add_zero]

theorem lb_passOf_eq (st : Loop) (pi : PassIn) :
    passOf st pi = mkPass ((st.sockQ ++ pi.arrivals).take st.srv.batchSize) pi := rfl

theorem lb_plan_zero (B : Nat) (q : List Datagram) (ins : Nat → PassIn) :
    plan B 0 q ins = ⟨[], q, false, true⟩ := rfl

theorem lb_mkPass_chunk (c : List Datagram) (pi : PassIn) : (mkPass c pi).chunk = c := rfl

theorem plan_bounded (B M : Nat) (q : List Datagram) (ins : Nat → PassIn) :
    (plan B M q ins).passes.length ≤ M ∧ (∀ p ∈ (plan B M q ins).passes, p.chunk.length ≤ B) ∧
    ((plan B M q ins).full = true → (plan B M q ins).passes.length = M) ∧
    ((plan B M q ins).full = false → (plan B M q ins).rest = []) := by
  fun_induction plan B M q ins with
  | case1 q ins => simp
  | case2 M q ins pi q' p h =>
    simp only [List.length_take] at h
    simp [p, mkPass, List.length_take]; omega
  | case3 M q ins pi q' p h r ih =>
    obtain ⟨h1, h2, h3, h4⟩ := ih
    simp only [r]
    refine ⟨by simp only [List.length_cons]; omega, ?_, fun hf => by simp only [List.length_cons, h3 hf], h4⟩
    simp only [List.mem_cons, forall_eq_or_imp, p, mkPass, List.length_take]
    exact ⟨by omega, h2⟩

theorem plan_passes_all {P : Server.Pass → Prop} (B M : Nat) (q : List Datagram) (ins : Nat → PassIn)
    (h : ∀ i c, P (mkPass c (ins i))) : ∀ p ∈ (plan B M q ins).passes, P p := by
  fun_induction plan B M q ins with
  | case1 q ins => simp
  | case2 M q ins pi q' p _ => exact fun p' hp => List.mem_singleton.mp hp ▸ h 0 _
  | case3 M q ins pi q' p _ r ih =>
    intro p' hp
    rcases List.mem_cons.mp hp with rfl | hp
    · exact h 0 _
    · exact ih (fun i c => h (i + 1) c) p' hp

theorem plan_quiet (B M : Nat) (q : List Datagram) (ins : Nat → PassIn) (hq : Quiet ins) :
    (plan B M q ins).passes.flatMap (·.chunk) = q.take (M * B) ∧ (plan B M q ins).rest = q.drop (M * B) ∧
    (plan B M q ins).arrived = false ∧
    (0 < B → q.length < M * B → (plan B M q ins).full = false) := by
  fun_induction plan B M q ins with
  | case1 q ins => simp
  | case2 M q ins pi q' p h =>
    have hq' : q' = q := by simp only [q', pi, hq 0, List.append_nil]
    simp only [p, mkPass, hq', List.length_take] at h ⊢
    have hl : q.length ≤ B ∧ q.length ≤ (M + 1) * B := by rw [Nat.succ_mul]; omega
    simp [List.take_of_length_le, List.drop_of_length_le, hl, pi, hq 0]
  | case3 M q ins pi q' p h r ih =>
    have hq' : q' = q := by simp only [q', pi, hq 0, List.append_nil]
    obtain ⟨h1, h2, h3, h4⟩ := ih fun i => hq (i + 1)
    have hmul : (M + 1) * B = B + M * B := by rw [Nat.succ_mul]; omega
    simp only [r, p, mkPass, hq', List.length_take, List.flatMap_cons] at h h1 h2 h3 h4 ⊢
    refine ⟨by rw [h1, hmul, List.take_add], by rw [h2, List.drop_drop, hmul], by simp [h3, pi, hq 0], fun hB hlen => ?_⟩
    apply h4 hB
    rw [List.length_drop]
    rw [hmul] at hlen
    omega

theorem service_refines (E : Env) (debug : Bool) (M : Nat) (st : Loop) (ins : Nat → PassIn) :
    serviceSocket E debug M st ins =
      (Server.run E debug st.srv (plan st.srv.batchSize M st.sockQ ins).passes).bind fun (srv', sent, ev) =>
        .ok ({ st with srv := srv', sockQ := (plan st.srv.batchSize M st.sockQ ins).rest,
                       sockEdge := st.sockEdge || (plan st.srv.batchSize M st.sockQ ins).arrived,
                       backlog := (plan st.srv.batchSize M st.sockQ ins).full,
                       recd := st.recd.recordAll ev },
             ⟨sent, ev, [], (plan st.srv.batchSize M st.sockQ ins).passes.length⟩) := by
  induction M generalizing st ins with
  | zero =>
    simp only [serviceSocket, plan, Server.run, Res.bind_ok, Recorder.recordAll, List.foldl_nil, Bool.or_false,
      List.length_nil]
  | succ M ih =>
    unfold serviceSocket plan
    simp only [lb_passOf_eq, lb_mkPass_chunk]
    by_cases h : ((st.sockQ ++ (ins 0).arrivals).take st.srv.batchSize).length < st.srv.batchSize
    · simp only [h, if_true, Server.run, Res.bind_assoc, Res.bind_ok, List.append_nil, List.length_cons,
        List.length_nil, Nat.zero_add]
    · simp only [h, if_false, Server.run, Res.bind_assoc, Res.bind_ok]
      -- the rest of the service runs on a server with the same `batch_size`, so on the rest of the same plan
      refine Res.bind_congr_ok fun ⟨srv', sent, ev⟩ hp => ?_
      simp only [ih, (pass_shape E debug _ _ _ _ _ hp).1, Res.bind_assoc, Res.bind_ok, Out.append, recordAll_append,
        Bool.or_assoc, List.append_nil, List.length_cons, Nat.add_comm 1]

theorem serviceNoFlag_eq (E : Env) (debug : Bool) (M : Nat) (st : Loop) (ins : Nat → PassIn) :
    serviceSocketNoFlag E debug M st ins =
      (serviceSocket E debug M st ins).bind fun (st', o) => .ok ({ st' with backlog := st.backlog }, o) := by
  induction M generalizing st ins with
  | zero => rfl
  | succ M ih =>
    rw [serviceSocketNoFlag, serviceSocket, Res.bind_assoc]
    refine Res.bind_congr_ok fun ⟨srv', sent, ev⟩ _ => ?_
    dsimp only
    split
    · rfl
    · rw [ih, Res.bind_assoc, Res.bind_assoc]
      rfl

end Rough.Lemmas.Loop
