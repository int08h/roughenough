import Rough.Basic.Bytes
/-
  `Res.bind`: evaluation on the three constructors, the monad laws used in proofs, and inversion of a successful bind.
  Every lemma file that reasons about a `Res` computation uses these instead of unfolding `Res.bind`.
-/
namespace Rough.Res

@[simp] theorem bind_ok {α β} (a : α) (f : α → Res β) : (Res.ok a).bind f = f a := rfl
@[simp] theorem bind_err {α β} (f : α → Res β) : (Res.err : Res α).bind f = .err := rfl
@[simp] theorem bind_panic {α β} (s : String) (f : α → Res β) : (Res.panic s : Res α).bind f = .panic s := rfl

/-- `bind_ok` as a genuine rewrite rule (not a `dsimp` step): after a definitional step the kernel has to check
    `(Res.ok a).bind f =?= f a`, and when `f a` is itself a `bind` it first compares `Res.ok a` with the scrutinee of
    that bind by evaluating it — slow when the scrutinee is a long computation, such as the `addField` chain of a
    `buildMsg` or `Rs.mulU64 _ 1000000 _`. -/
theorem bind_ok_s {α β} (a : α) (f : α → Res β) : (Res.ok a).bind f = f a := Eq.trans rfl rfl

theorem bind_assoc {α β γ} (r : Res α) (f : α → Res β) (g : β → Res γ) :
    (r.bind f).bind g = r.bind fun a => (f a).bind g := by
  cases r <;> rfl

theorem bind_ok_right {α} (r : Res α) : r.bind .ok = r := by
  cases r <;> rfl

theorem ite_bind {α β} (c : Prop) [Decidable c] (r s : Res α) (f : α → Res β) :
    (if c then r else s).bind f = if c then r.bind f else s.bind f := by
  split <;> rfl

theorem bind_eq_ok {α β} {r : Res α} {f : α → Res β} {b : β} :
    r.bind f = .ok b ↔ ∃ a, r = .ok a ∧ f a = .ok b := by
  cases r with
  | ok a => exact ⟨fun h => ⟨a, rfl, h⟩, fun ⟨_, e, h⟩ => by cases e; exact h⟩
  | err => exact ⟨nofun, nofun⟩
  | panic s => exact ⟨nofun, nofun⟩

theorem of_bind_eq_ok {α β} {r : Res α} {f : α → Res β} {b : β} (h : r.bind f = .ok b) :
    ∃ a, r = .ok a ∧ f a = .ok b :=
  bind_eq_ok.mp h

theorem ne_panic_of_isPanic {α} {r : Res α} (h : r.isPanic = false) (s : String) : r ≠ .panic s :=
  fun e => by rw [e] at h; cases h

theorem bind_ne_panic {α β} {r : Res α} {f : α → Res β} (hr : ∀ s, r ≠ .panic s)
    (hf : ∀ a, r = .ok a → ∀ s, f a ≠ .panic s) : ∀ s, r.bind f ≠ .panic s := by
  cases r with
  | ok a => exact hf a rfl
  | err => exact nofun
  | panic s => exact absurd rfl (hr s)

theorem bind_congr_ok {α β} {r : Res α} {f g : α → Res β} (h : ∀ a, r = .ok a → f a = g a) :
    r.bind f = r.bind g := by
  cases r with
  | ok a => exact h a rfl
  | err => rfl
  | panic s => rfl

theorem foldl_ne_panic {α β} (g : Res β → α → Res β) (P : α → Prop)
    (hg : ∀ acc a, P a → (∀ s, acc ≠ .panic s) → ∀ s, g acc a ≠ .panic s) :
    ∀ (l : List α), (∀ a ∈ l, P a) → ∀ acc, (∀ s, acc ≠ .panic s) → ∀ s, l.foldl g acc ≠ .panic s := by
  intro l
  induction l with
  | nil => intro _ acc hacc s; exact hacc s
  | cons a l ih =>
    intro hl acc hacc s
    rw [List.foldl_cons]
    exact ih (fun x hx => hl x (by simp [hx])) _ (hg acc a (hl a (by simp)) hacc) s

end Rough.Res
