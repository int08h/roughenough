import Rough.Basic.Bytes
import Rough.Lemmas.Lists
/-
  Byte-level facts.  `leVal` and `leBytes` are mutually inverse between `k`-byte strings and numbers below `256 ^ k`;
  what is said here about `le16` / `le32` / `le64` and `rd16` / `rd32` are instances of that.  Also lengths of
  concatenated fixed-width pieces, and `ByteArray.toList` / `strBytes`.
-/
namespace Rough.Lemmas
open Rough

@[simp] theorem leVal_nil : leVal [] = 0 := rfl
@[simp] theorem leVal_cons (b : UInt8) (bs : Bytes) : leVal (b :: bs) = b.toNat + 256 * leVal bs := rfl

/-- The `k` low-order bytes of `n`, least significant first: what `le16`, `le32`, `le64` write for
    `k = 2, 4, 8` (`le16_eq`, `le32_eq`, `le64_eq`). -/
def leBytes : Nat → Nat → Bytes
  | 0, _ => []
  | k + 1, n => UInt8.ofNat (n % 256) :: leBytes k (n / 256)

@[simp] theorem leBytes_length (k n : Nat) : (leBytes k n).length = k := by
  induction k generalizing n with
  | zero => rfl
  | succ k ih => simp [leBytes, ih]

theorem leVal_leBytes (k n : Nat) : leVal (leBytes k n) = n % 256 ^ k := by
  induction k generalizing n with
  | zero => simp [leBytes, Nat.mod_one]
  | succ k ih =>
    rw [Nat.pow_succ, Nat.mul_comm, Nat.mod_mul, leBytes, leVal_cons, ih, UInt8.toNat_ofNat']
    exact congrArg (· + _) (Nat.mod_mod _ _)

theorem leBytes_leVal (b : Bytes) : leBytes b.length (leVal b) = b := by
  induction b with
  | nil => rfl
  | cons x xs ih =>
    have := x.toNat_lt
    rw [List.length_cons, leBytes, leVal_cons, Nat.add_mul_mod_self_left, Nat.add_mul_div_left _ _ (by decide),
      Nat.mod_eq_of_lt this, Nat.div_eq_of_lt this, Nat.zero_add, ih, UInt8.ofNat_toNat]

theorem leVal_lt (b : Bytes) : leVal b < 256 ^ b.length := by
  rw [← leBytes_leVal b, leVal_leBytes, leBytes_length]
  exact Nat.mod_lt _ (Nat.pow_pos (by decide))

theorem leVal_inj {a b : Bytes} (hl : a.length = b.length) (h : leVal a = leVal b) : a = b := by
  rw [← leBytes_leVal a, ← leBytes_leVal b, hl, h]

theorem leBytes_mod (k n : Nat) : leBytes k (n % 256 ^ k) = leBytes k n := by
  have := leBytes_leVal (leBytes k n)
  rwa [leBytes_length, leVal_leBytes] at this

theorem leBytes_add (j k n : Nat) : leBytes (j + k) n = leBytes j n ++ leBytes k (n / 256 ^ j) := by
  induction j generalizing n with
  | zero => simp [leBytes]
  | succ j ih =>
    rw [Nat.add_right_comm, leBytes, ih, leBytes, List.cons_append, Nat.div_div_eq_div_mul, Nat.pow_succ,
      Nat.mul_comm]

theorem le16_eq (n : Nat) : le16 n = leBytes 2 n := rfl
theorem le32_eq (n : Nat) : le32 n = leBytes 4 n := by
  simp [le32, leBytes, Nat.div_div_eq_div_mul]
theorem le64_eq (n : Nat) : le64 n = leBytes 8 n := by
  rw [le64, le32_eq, le32_eq, leBytes_mod 4, leBytes_add 4 4]

theorem eq_four {b : Bytes} (h : b.length = 4) : ∃ x y z w, b = [x, y, z, w] := by
  match b, h with
  | [x, y, z, w], _ => exact ⟨x, y, z, w, rfl⟩

@[simp] theorem le32_length (n : Nat) : (le32 n).length = 4 := rfl

theorem leVal_le32 (n : Nat) : leVal (le32 n) = n % 4294967296 := by rw [le32_eq, leVal_leBytes]

theorem le32_leVal {b : Bytes} (h : b.length = 4) : le32 (leVal b) = b := by
  rw [le32_eq, ← h, leBytes_leVal]

@[simp] theorem le32_leVal_four (a b c d : UInt8) : le32 (leVal [a, b, c, d]) = [a, b, c, d] :=
  le32_leVal rfl

@[simp] theorem le32_mod (n : Nat) : le32 (n % 4294967296) = le32 n := by
  rw [le32_eq, le32_eq]; exact leBytes_mod 4 n

theorem le32_inj {a b : Nat} (ha : a < 4294967296) (hb : b < 4294967296) (h : le32 a = le32 b) :
    a = b := by
  have := congrArg leVal h
  rwa [leVal_le32, leVal_le32, Nat.mod_eq_of_lt ha, Nat.mod_eq_of_lt hb] at this

@[simp] theorem rd32_le32_append (n : Nat) (r : Bytes) : rd32 (le32 n ++ r) = n % 4294967296 := by
  rw [rd32, List.take_left' (le32_length n), leVal_le32]

@[simp] theorem rd32_le32 (n : Nat) : rd32 (le32 n) = n % 4294967296 := leVal_le32 n

theorem rd32_lt (b : Bytes) : rd32 b < 4294967296 :=
  Nat.lt_of_lt_of_le (leVal_lt _) (Nat.pow_le_pow_right (by decide) (List.length_take_le 4 b))

theorem le32_rd32_take {b : Bytes} (h : 4 ≤ b.length) : le32 (rd32 b) = b.take 4 :=
  le32_leVal (List.length_take_of_le h)

theorem le32_rd32 {b : Bytes} (h : 4 ≤ b.length) : le32 (rd32 b) ++ b.drop 4 = b := by
  rw [le32_rd32_take h, List.take_append_drop]

@[simp] theorem le16_length (n : Nat) : (le16 n).length = 2 := rfl

@[simp] theorem rd16_le16_append (n : Nat) (r : Bytes) : rd16 (le16 n ++ r) = n % 65536 := by
  rw [rd16, List.take_left' (le16_length n), le16_eq, leVal_leBytes]

theorem rd16_lt (b : Bytes) : rd16 b < 2 ^ 16 :=
  Nat.lt_of_lt_of_le (leVal_lt _) (Nat.pow_le_pow_right (by decide) (List.length_take_le 2 b))

theorem le16_rd16_take {b : Bytes} (h : 2 ≤ b.length) : le16 (rd16 b) = b.take 2 := by
  have := leBytes_leVal (b.take 2)
  rwa [List.length_take_of_le h] at this

theorem le16_rd16 {b : Bytes} (h : 2 ≤ b.length) : le16 (rd16 b) ++ b.drop 2 = b := by
  rw [le16_rd16_take h, List.take_append_drop]

theorem leVal_le64 (n : Nat) : leVal (le64 n) = n % 2 ^ 64 := by rw [le64_eq, leVal_leBytes]

@[simp] theorem zeros_length (n : Nat) : (zeros n).length = n := List.length_replicate

@[simp] theorem length_flatMap_le32 (l : List Nat) : (l.flatMap le32).length = 4 * l.length :=
  List.length_flatMap_const le32 4 le32_length l

-- `ByteArray.toList` is defined by a well-founded loop in core; no core lemma relates it to `data`.

theorem byteArray_toList_loop (bs : ByteArray) (i : Nat) (r : List UInt8) :
    ByteArray.toList.loop bs i r = r.reverse ++ bs.data.toList.drop i := by
  fun_induction ByteArray.toList.loop bs i r with
  | case1 i r h ih =>
    rw [ih]
    have h' : i < bs.data.toList.length := by simpa using h
    rw [List.drop_eq_getElem_cons h']
    have : bs.get! i = bs.data.toList[i] := by
      cases bs with | mk d =>
      simp only [ByteArray.get!]
      have h2 : i < d.size := by simpa using h'
      simp [getElem!_pos, h2]
    simp [this]
  | case2 i r h =>
    have h' : bs.data.toList.length ≤ i := by simpa using h
    simp [List.drop_eq_nil_of_le h']

theorem byteArray_toList (bs : ByteArray) : bs.toList = bs.data.toList := by
  simp [ByteArray.toList, byteArray_toList_loop]

theorem strBytes_ofList (l : List Char) :
    strBytes (String.ofList l) = l.flatMap String.utf8EncodeChar := by
  rw [strBytes, String.toUTF8, String.toByteArray_ofList, byteArray_toList, List.utf8Encode,
    List.toList_data_toByteArray]

end Rough.Lemmas
