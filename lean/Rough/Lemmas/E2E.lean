import Rough.Lemmas.ServerAssembly
import Rough.Lemmas.ClientRequest
import Rough.Lemmas.ClientAccept
/-
  Client and server composed: the request the client model builds is accepted by the server's classifier
  (`request_wellformed`), so it has a place in its protocol's batch, and the client accepts the reference responder's
  reply for that place (`Client.accept`).
-/
namespace Rough.Lemmas.E2E
open Rough Rough.ServerSpec Rough.Spec
open Rough.Lemmas.ServerSpec Rough.Lemmas.ServerAssembly

theorem client_reply (E : Env) (hE : EnvOK E) (hS : E.S.Correct)
    (hv : ∀ seed, E.S.pkValid (E.S.pk seed) = true) (K : Keys) (hK : K.OK)
    (s : Server) (hs : Inv E K s) (hb : s.batchSize ≤ 2 ^ 32) (p : Server.Pass) (hp : PassOK p)
    (ver : Version) (nonce : Bytes) (hn : nonce.length = ver.nonceLen)
    (pk? : Option Bytes) (hk : pk? = none ∨ pk? = some (E.S.pk K.seed))
    (d : Datagram) (hreq : Client.makeRequest E.H ver nonce pk? = .ok d.bytes) (hmem : d ∈ p.chunk.take s.batchSize) :
    ∃ x ∈ expectedSent E K s p, x.dst = d.src ∧
      ∃ idx, Client.handleResponse E.S E.H ver pk? nonce d.bytes x.bytes =
        .ok ⟨midpVal ver (nowOf p ver), radiOf ver, pk?.isSome, idx⟩ := by
  -- the request is classified `must nonce` for its own protocol
  have hsrv : ∀ pk, pk? = some pk → s.srv = (E.H ((0xff : UInt8) :: pk)).take 32 := by
    rintro pk rfl
    obtain hk | hk := hk
    · cases hk
    · cases hk; exact hs.srv
  obtain ⟨req', hreq', _, hcls, hproto⟩ :=
    Lemmas.Client.request_wellformed E.H hE.hashLen ver nonce hn pk? s.srv hsrv
  obtain rfl : d.bytes = req' := Res.ok.inj (hreq.symm.trans hreq')
  have hnfr : nonceFromRequest d.bytes s.srv = .ok (nonce, ver) := by
    rw [Lemmas.Request.classify_eq, hproto, hcls]
    cases ver <;> rfl
  -- so it has a position in the batch of its protocol
  obtain ⟨i, hi, hget⟩ := List.getElem_of_mem (ss_mem_accepted.mpr ⟨hmem, hnfr⟩)
  have hle := sa_accepted_le s.srv ver p.chunk s.batchSize
  refine ⟨_, sa_reply_mem E K s p ver i hi, by rw [hget], i, ?_⟩
  rw [hget]
  refine Lemmas.Client.accept E.S hS hv E.H hE.hashLen hE.sigLen hE.pkLen ver K.seed (onlOf K ver) hK.1
    (sa_onl_len K hK ver) _ _ (sa_midpVal_lt ver _ (sa_now_ok p hp ver)) (sa_radiOf_lt ver) _ i
    (by rw [List.length_map]; exact hi) (by rw [List.length_map]; omega) d.bytes nonce hn ?_ pk? hk
  rw [List.getElem_map, hget]
  cases ver <;> rfl

end Rough.Lemmas.E2E
