import Rough.Model.Config
/-
  Decimal rendering (`showDigits` / `showNat` / `showInt`) against the scalar readers of the configuration model:
  `parseUnsigned` and `yamlInt` read back the number that was written, within their ranges, and `unquote` leaves
  the text alone.
-/
namespace Rough.Lemmas.Config
open Rough Rough.Config

theorem digit_char : ∀ d < 10,
    isDigit (Char.ofNat (48 + d)) = true ∧ (Char.ofNat (48 + d)).toNat - 48 = d := by
  decide

theorem digitsVal_snoc (l : List Char) (c : Char) :
    digitsVal (l ++ [c]) = digitsVal l * 10 + (c.toNat - 48) := by
  simp [digitsVal, List.foldl_append]

theorem showDigits_spec (fuel n : Nat) (h : n < fuel) :
    showDigits fuel n ≠ [] ∧ (showDigits fuel n).all isDigit = true ∧ digitsVal (showDigits fuel n) = n := by
  induction fuel generalizing n with
  | zero => omega
  | succ fuel ih =>
    unfold showDigits
    split
    · next hlt =>
      have := digit_char n hlt
      simp [digitsVal, this.1, this.2]
    · next hge =>
      have ih' := ih (n / 10) (by omega)
      have hd := digit_char (n % 10) (by omega)
      refine ⟨by simp, ?_, ?_⟩
      · simp [List.all_append, ih'.2.1, hd.1]
      · rw [digitsVal_snoc, ih'.2.2, hd.2]; omega

/-- in the form the readers consume: they look at the first character, then at all of them -/
theorem showNat_spec (n : Nat) :
    ∃ c t, (showNat n).toList = c :: t ∧ isDigit c = true ∧ t.all isDigit = true ∧ digitsVal (c :: t) = n := by
  obtain ⟨hne, hall, hval⟩ := showDigits_spec (n + 1) n (Nat.lt_succ_self n)
  rw [showNat, String.toList_ofList]
  cases hl : showDigits (n + 1) n with
  | nil => exact absurd hl hne
  | cons c t =>
    rw [hl, List.all_cons, Bool.and_eq_true] at hall
    exact ⟨c, t, rfl, hall.1, hall.2, hl ▸ hval⟩

theorem not_digit_plus : isDigit '+' = false := by decide
theorem not_digit_minus : isDigit '-' = false := by decide
theorem not_digit_quote : isDigit '"' = false := by decide

theorem isDigit_ne {c x : Char} (hc : isDigit c = true) (hx : isDigit x = false) : c ≠ x := by
  rintro rfl
  rw [hx] at hc
  cases hc

theorem parseUnsigned_showNat (n bits : Nat) :
    parseUnsigned bits (showNat n) = (if n < 2 ^ bits then some n else none) := by
  obtain ⟨c, t, hl, hc, ht, hv⟩ := showNat_spec n
  simp [parseUnsigned, hl, isDigit_ne hc not_digit_plus, hc, ht, hv]

theorem yamlInt_showNat (n : Nat) :
    yamlInt (showNat n) = (if (n : Int) < 2 ^ 63 then some (n : Int) else none) := by
  obtain ⟨c, t, hl, hc, ht, hv⟩ := showNat_spec n
  simp [yamlInt, hl, isDigit_ne hc not_digit_plus, isDigit_ne hc not_digit_minus, hc, ht, hv]

theorem showInt_nonneg (v : Int) (h : 0 ≤ v) : showInt v = showNat v.toNat := by
  simp [showInt, Int.not_lt.mpr h]

theorem showInt_neg_toList (v : Int) (h : v < 0) :
    ∃ c t, (showInt v).toList = '-' :: c :: t ∧ isDigit c = true ∧ t.all isDigit = true ∧
      digitsVal (c :: t) = v.natAbs := by
  obtain ⟨c, t, hl, hc, ht, hv⟩ := showNat_spec v.natAbs
  refine ⟨c, t, ?_, hc, ht, hv⟩
  simp [showInt, h, String.toList_append, hl]

theorem parseUnsigned_showInt (bits : Nat) (v : Int) :
    parseUnsigned bits (showInt v) = (if 0 ≤ v ∧ v < 2 ^ bits then some v.toNat else none) := by
  by_cases h : 0 ≤ v
  · rw [showInt_nonneg v h, parseUnsigned_showNat]
    have hlt : v.toNat < 2 ^ bits ↔ v < 2 ^ bits := Int.toNat_lt' (Nat.pow_pos (by decide))
    simp only [hlt, h, true_and]
  · obtain ⟨c, t, hl, -⟩ := showInt_neg_toList v (by omega)
    simp [parseUnsigned, hl, h, not_digit_minus]

theorem yamlInt_showInt (v : Int) :
    yamlInt (showInt v) = (if -(2 : Int) ^ 63 ≤ v ∧ v < (2 : Int) ^ 63 then some v else none) := by
  by_cases h : 0 ≤ v
  · rw [showInt_nonneg v h, yamlInt_showNat, Int.toNat_of_nonneg h]
    by_cases h2 : v < (2 : Int) ^ 63
    · rw [if_pos h2, if_pos ⟨by omega, h2⟩]
    · rw [if_neg h2, if_neg (fun h' => h2 h'.2)]
  · obtain ⟨c, t, hl, hc, ht, hv⟩ := showInt_neg_toList v (by omega)
    have hv' : -((digitsVal (c :: t) : Nat) : Int) = v := by rw [hv]; omega
    simp [yamlInt, hl, hc, ht, hv']

theorem yaml_narrow_showInt (bits : Nat) (v : Int) :
    (yamlInt (showInt v)).bind (narrow bits) =
      (if 0 ≤ v ∧ v < 2 ^ bits ∧ v < 2 ^ 63 then some v.toNat else none) := by
  rw [yamlInt_showInt]
  by_cases h1 : -(2 : Int) ^ 63 ≤ v ∧ v < (2 : Int) ^ 63
  · rw [if_pos h1, Option.bind_some, narrow]
    by_cases h2 : 0 ≤ v ∧ v < (2 : Int) ^ bits
    · rw [if_pos h2, if_pos ⟨h2.1, h2.2, h1.2⟩]
    · rw [if_neg h2, if_neg (fun h => h2 ⟨h.1, h.2.1⟩)]
  · rw [if_neg h1, Option.bind_none, if_neg]
    intro h; apply h1; constructor <;> omega

theorem showInt_ofNat (n : Nat) : showInt (n : Int) = showNat n := by
  rw [showInt_nonneg _ (Int.natCast_nonneg n), Int.toNat_natCast]

theorem unquote_plain (txt : String) (hq : txt.toList.head? ≠ some '"') : unquote txt = txt := by
  unfold unquote
  split
  · rename_i rest heq
    rw [heq] at hq
    exact absurd rfl hq
  · rfl

theorem unquote_showInt (v : Int) : unquote (showInt v) = showInt v := by
  refine unquote_plain _ fun hq => ?_
  by_cases h : 0 ≤ v
  · obtain ⟨c, t, hl, hc, -, -⟩ := showNat_spec v.toNat
    rw [showInt_nonneg v h, hl] at hq
    exact isDigit_ne hc not_digit_quote (Option.some.inj hq)
  · obtain ⟨c, t, hl, -⟩ := showInt_neg_toList v (by omega)
    rw [hl] at hq
    exact absurd (Option.some.inj hq) (by decide)

end Rough.Lemmas.Config
