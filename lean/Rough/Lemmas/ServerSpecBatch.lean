import Rough.Lemmas.ServerSpecBasic
import Rough.Lemmas.SpecRT
import Rough.Lemmas.SendFail
import Rough.Lemmas.Grease
/-
  One responder, one batch: `collect`, `respondOne`, `respondAll`, `sendResponses` in closed form, for any fault-injection
  decisions the Rust code can draw (`GreaseOK`); without fault injection the closed form is `expectedBatch`.
-/
namespace Rough.Lemmas.ServerSpec
open Rough Rough.Merkle Rough.Stats Rough.ServerSpec Rough.Spec
open Rough.Res (bind_ok)
open Rough.Lemmas.Shape

/-- what `add` records for an accepted request: (nonce, source) -/
def ss_reqOf (x : Datagram × Bytes) : Bytes × Addr := (x.2, x.1.src)

theorem ss_collect_spec (E : Env) : ∀ (chunk : List Datagram) (bs : Nat) (srv lt : Bytes)
    (oI oC : Signer) (cI cC : Bytes) (rI rC : List (Bytes × Addr)) (lI lC : List Bytes)
    (restI restC : List (List Bytes)),
    Server.collect E ⟨bs, srv, lt, ⟨.ietf, oI, cI, rI, ⟨lI :: restI⟩⟩, ⟨.google, oC, cC, rC, ⟨lC :: restC⟩⟩⟩ chunk
      = .ok (⟨bs, srv, lt,
          ⟨.ietf, oI, cI, rI ++ (accepted srv .ietf chunk).map ss_reqOf,
            ⟨(lI ++ ((accepted srv .ietf chunk).map (leafOf .ietf)).map (hashLeaf (E.mcfg .ietf))) :: restI⟩⟩,
          ⟨.google, oC, cC, rC ++ (accepted srv .google chunk).map ss_reqOf,
            ⟨(lC ++ ((accepted srv .google chunk).map (leafOf .google)).map (hashLeaf (E.mcfg .google))) :: restC⟩⟩⟩,
        chunk.map (requestEvent srv)) := by
  intro chunk
  induction chunk with
  | nil => intros; simp [Server.collect, accepted]
  | cons d ds ih =>
    intro bs srv lt oI oC cI cC rI rC lI lC restI restC
    unfold Server.collect Server.collectOne
    simp only [ss_accepted_eq, List.filterMap_cons, ss_acc1] at ih ⊢
    cases hnr : nonceFromRequest d.bytes srv with
    | panic t => exact absurd hnr (Lemmas.Request.no_panic _ _ _)
    | err => simp only [bind_ok, ih, List.map_cons, requestEvent, hnr]
    | ok x =>
      obtain ⟨n, v⟩ := x
      -- an accepted request goes to the end of its protocol's queue and its leaf hash to the end of that tree's level
      -- 0: `ih` at those longer lists, and what remains is associativity of `++`
      cases v <;>
        simp [Responder.add, Lemmas.Merkle.pushLeaf_cons, ih, requestEvent, hnr, leafOf, ss_reqOf]

theorem ss_makeSrep (S : SigScheme) (onl : Bytes) (ver : Version) (now : Nat × Nat) (root : Bytes)
    (hclk : clockOK now) :
    makeSrep S ⟨onl, []⟩ ver now.1 now.2 root
      = .ok (signedM (S.sign onl (RT.srepCtx (protoOfVer ver) ++
                encode (srepM (protoOfVer ver) (le32 (radiOf ver)) (le64 (midpVal ver now)) root)))
               (encode (srepM (protoOfVer ver) (le32 (radiOf ver)) (le64 (midpVal ver now)) root)), ⟨onl, []⟩) := by
  rw [Lemmas.Keys.makeSrep_eq S _ ver _ _ root _ (ss_midpOf_ok ver now hclk), ss_srepPrefix]
  rfl

/-- the reply message of the reference responder (before framing), carrying certificate bytes `cert` -/
def ss_respMsg (E : Env) (K : Keys) (ver : Version) (cert : Bytes) (midp : Nat) (leaves : List Bytes) (i : Nat)
    (nonce : Bytes) : Msg :=
  let p := protoOfVer ver
  let srep := encode (srepM p (le32 (radiOf ver)) (le64 midp) (MT.T.hash (RT.mcfg E.H p) (MT.treeOf leaves)))
  respM (E.S.sign (onlOf K ver) (RT.srepCtx p ++ srep)) nonce (MT.pathOf (RT.mcfg E.H p) leaves i).flatten srep cert
    (le32 i)

/-- what a fault-injection decision makes of a reply message (the message itself where the injector fails) -/
def ss_greased (g : Grease) (m : Msg) : Msg := ((applyGrease g m).toOption).getD m

theorem ss_greased_ok (E : Env) (K : Keys) (ver : Version) (cert : Bytes) (midp : Nat) (leaves : List Bytes) (i : Nat)
    (nonce : Bytes) (g : Grease) (hg : GreaseOK g) :
    applyGrease g (ss_respMsg E K ver cert midp leaves i nonce)
      = .ok (ss_greased g (ss_respMsg E K ver cert midp leaves i nonce)) := by
  have h : ∃ m', applyGrease g (ss_respMsg E K ver cert midp leaves i nonce) = .ok m' := by
    cases g with
    | none => exact ⟨_, rfl⟩
    | reorder perm =>
      -- `GreaseOK` makes `perm` a permutation of `range 6`, and the response has six fields
      exact ⟨_, Lemmas.Grease.applyGrease_reorder (ss_respMsg E K ver cert midp leaves i nonce) perm
        (fun j hj => (List.mem_range (n := 6)).mp (hg.mem_iff.mp hj)) (Tag.SIG, [])⟩
    | corruptSig rho => exact ⟨_, Lemmas.Grease.applyGrease_corruptSig _ rho _ _ _ _ _ rfl rfl rfl rfl rfl⟩
  obtain ⟨m', h⟩ := h
  rw [ss_greased, h]; rfl

/-- reply `i` of the reference responder after fault-injection decision `g` -/
def ss_replyG (E : Env) (K : Keys) (ver : Version) (cert : Bytes) (midp : Nat) (leaves : List Bytes) (g : Grease) (i : Nat)
    (nonce : Bytes) : Bytes :=
  wireOf ver (ss_greased g (ss_respMsg E K ver cert midp leaves i nonce))

theorem ss_replyG_none (E : Env) (K : Keys) (ver : Version) (midp : Nat) (leaves : List Bytes) (i : Nat) (nonce : Bytes) :
    ss_replyG E K ver (certOf E K ver) midp leaves Grease.none i nonce =
      RT.respond E.S E.H (protoOfVer ver) K.seed (onlOf K ver) midp (radiOf ver) 0 (2 ^ 64 - 1) leaves i nonce := by
  cases ver <;> rfl

theorem ss_respondOne_of (r : Responder) (debug : Bool) (sig srepB path nonce : Bytes) (i : Nat)
    (src : Addr) (g : Grease) (m' : Msg)
    (hpath : getPaths r.tree i = .ok path) (hn : 4 ≤ nonce.length)
    (hg : applyGrease g (respM sig nonce path srepB r.cert (le32 i)) = .ok m') :
    Responder.respondOne r debug (signedM sig srepB) i nonce src g
      = .ok (⟨src, wireOf r.ver m'⟩, ⟨ss_kindOf r.ver, src, (wireOf r.ver m').length⟩) := by
  unfold Responder.respondOne
  rw [hpath, bind_ok, Lemmas.Keys.makeResponse_eq, bind_ok, hg, bind_ok]
  have hd : (if debug then (slice nonce 0 4 "responder.rs:send_responses:nonce[0..4]").bind fun _ => Res.ok ()
      else .ok ()) = .ok () := by
    cases debug with
    | false => rfl
    | true => rw [if_pos rfl, slice_ok (by omega) hn, bind_ok]
  simp only [hd, bind_ok]
  cases hv : r.ver <;> rfl

/-- the batch a responder sends when reply `j` is `G g j nonce` for the `j`-th fault-injection decision `g` -/
def ss_batch (G : Grease → Nat → Bytes → Bytes) (idx : Nat) (reqs : List (Datagram × Bytes)) (gs : List Grease) : List Sent :=
  reqs.mapIdx fun j x => ⟨x.1.src, G (gs.getD j Grease.none) (idx + j) x.2⟩

theorem ss_batch_cons (G : Grease → Nat → Bytes → Bytes) (idx : Nat) (x : Datagram × Bytes) (xs : List (Datagram × Bytes))
    (gs : List Grease) :
    ss_batch G idx (x :: xs) gs = ⟨x.1.src, G (gs.headD Grease.none) idx x.2⟩ :: ss_batch G (idx + 1) xs gs.tail := by
  cases gs <;> simp [ss_batch, List.mapIdx_cons, Nat.add_assoc, Nat.add_comm 1]

theorem ss_batch_none (G : Grease → Nat → Bytes → Bytes) (idx : Nat) (reqs : List (Datagram × Bytes)) (gs : List Grease)
    (hg : ∀ g ∈ gs, g = Grease.none) :
    ss_batch G idx reqs gs = reqs.mapIdx fun j x => ⟨x.1.src, G Grease.none (idx + j) x.2⟩ := by
  have : ∀ j, gs.getD j Grease.none = Grease.none := fun j => by
    rw [List.getD_eq_getElem?_getD]
    cases h : gs[j]? with
    | none => rfl
    | some g => exact hg g (List.mem_of_getElem? h)
  simp only [ss_batch, this]

theorem ss_respondAll_gen (r : Responder) (debug : Bool) (srep : Msg) (G : Grease → Nat → Bytes → Bytes)
    (kind : Kind) (bound : Nat)
    (h1 : ∀ i nonce src g, i < bound → 4 ≤ nonce.length → GreaseOK g →
      Responder.respondOne r debug srep i nonce src g = .ok (⟨src, G g i nonce⟩, ⟨kind, src, (G g i nonce).length⟩)) :
    ∀ (reqs : List (Datagram × Bytes)) (idx : Nat) (gs : List Grease), idx + reqs.length ≤ bound →
      (∀ x ∈ reqs, 4 ≤ x.2.length) → (∀ g ∈ gs, GreaseOK g) →
      Responder.respondAll r debug srep idx (reqs.map ss_reqOf) gs
        = .ok (ss_batch G idx reqs gs, (ss_batch G idx reqs gs).map fun x => ⟨kind, x.dst, x.bytes.length⟩) := by
  intro reqs
  induction reqs with
  | nil => intro idx gs _ _ _; rfl
  | cons x xs ih =>
    intro idx gs hb hn hg
    have hgh : GreaseOK (gs.headD Grease.none) := by
      cases gs with
      | nil => trivial
      | cons g _ => exact hg g (List.mem_cons_self ..)
    simp only [List.length_cons] at hb
    simp only [List.map_cons, ss_reqOf, Responder.respondAll, ss_batch_cons,
      h1 idx x.2 x.1.src _ (by omega) (hn x (List.mem_cons_self ..)) hgh, bind_ok,
      ih (idx + 1) gs.tail (by omega) (fun y hy => hn y (List.mem_cons_of_mem _ hy)) fun g hgm => hg g (List.mem_of_mem_tail hgm)]

theorem ss_send_front (E : Env) (hE : EnvOK E) (ver : Version)
    (leaves : List Bytes) (hne : leaves ≠ []) (hsz : leaves.length ≤ 2 ^ 32)
    (t0 tree : Tree) (ht0 : t0.levels ≠ [])
    (htree : pushAll (E.mcfg ver) (reset t0) leaves = .ok tree) :
    ∃ t', computeRoot (E.mcfg ver) ver.isIetf tree
        = .ok (t', MT.T.hash (RT.mcfg E.H (protoOfVer ver)) (MT.treeOf leaves)) ∧
      t'.levels ≠ [] ∧
      (∀ i, i < leaves.length →
        getPaths t' i = .ok (MT.pathOf (RT.mcfg E.H (protoOfVer ver)) leaves i).flatten) := by
  obtain ⟨t', root, hrun, ht', hroot, hpaths⟩ :=
    Lemmas.Merkle.complete (E.mcfg ver) ver.isIetf (mcfg_proto E ver ▸ Lemmas.SpecRT.mcfg_hashLen E.H hE.hashLen _)
      (ss_widthOK E ver) t0 ht0 leaves hne hsz
  rw [runBatch, htree, bind_ok, hroot] at hrun
  rw [← mcfg_proto]
  exact ⟨t', hrun, ht', fun i hi => (hpaths i hi).1⟩

theorem ss_send_gen (E : Env) (hE : EnvOK E) (K : Keys) (ver : Version) (now : Nat × Nat)
    (reqs : List (Datagram × Bytes)) (r : Responder) (t0 : Tree) (debug : Bool) (gs : List Grease) (cert : Bytes)
    (hver : r.ver = ver) (honl : r.onl = ⟨onlOf K ver, []⟩) (hcert : r.cert = cert)
    (hreq : r.requests = reqs.map ss_reqOf) (ht0 : t0.levels ≠ [])
    (htree : pushAll (E.mcfg ver) (reset t0) (reqs.map (leafOf ver)) = .ok r.tree)
    (hrt : r.tree.levels ≠ [])
    (hsz : reqs.length ≤ 2 ^ 32) (hn : ∀ x ∈ reqs, 4 ≤ x.2.length) (hclk : clockOK now)
    (hg : ∀ g ∈ gs, GreaseOK g) :
    ∃ t', Responder.sendResponses E r debug now gs
        = .ok ({ r with tree := t' },
            ss_batch (ss_replyG E K ver cert (midpVal ver now) (reqs.map (leafOf ver))) 0 reqs gs,
            (ss_batch (ss_replyG E K ver cert (midpVal ver now) (reqs.map (leafOf ver))) 0 reqs gs).map
              (fun x => (⟨ss_kindOf ver, x.dst, x.bytes.length⟩ : Event))) ∧
      t'.levels ≠ [] := by
  obtain ⟨rv, ro, rc, rr, rt⟩ := r
  simp only at hver honl hcert hreq htree hrt
  have hver' : ver = rv := hver.symm
  subst hver' honl hcert hreq
  by_cases hne : reqs = []
  · subst hne
    exact ⟨rt, by simp [Responder.sendResponses, ss_batch], hrt⟩
  · -- the three stages of `sendResponses` in closed form: root and paths of the batch (`ss_send_front`), the signed
    -- SREP (`ss_makeSrep`), then one reply per request (`ss_respondAll_gen`, each by `ss_respondOne_of` from its path)
    obtain ⟨t', hroot, ht', hpaths⟩ := ss_send_front E hE ver (reqs.map (leafOf ver)) (by simpa using hne)
      (by simpa using hsz) t0 rt ht0 htree
    refine ⟨t', ?_, ht'⟩
    have he : (reqs.map ss_reqOf).isEmpty = false := by simpa using hne
    unfold Responder.sendResponses
    simp only [he, Bool.false_eq_true, if_false]
    rw [hroot, bind_ok]
    simp only
    rw [ss_makeSrep E.S (onlOf K ver) ver now _ hclk, bind_ok]
    simp only
    rw [ss_respondAll_gen _ debug _ (ss_replyG E K ver rc _ _) (ss_kindOf ver) reqs.length ?_ reqs 0 gs (by omega) hn hg,
      bind_ok]
    intro i nonce src g hi hnl hgo
    exact ss_respondOne_of ⟨ver, ⟨onlOf K ver, []⟩, rc, reqs.map ss_reqOf, t'⟩ debug _ _ _ nonce i src g _
      (hpaths i (by simpa using hi)) hnl (ss_greased_ok E K ver rc _ _ i nonce g hgo)

/-- the batch of protocol `ver` for clock reading `now`, requests `reqs` and decisions `gs` -/
def ss_batchG (E : Env) (K : Keys) (ver : Version) (now : Nat × Nat) (reqs : List (Datagram × Bytes)) (gs : List Grease) :
    List Sent :=
  ss_batch (ss_replyG E K ver (certOf E K ver) (midpVal ver now) (reqs.map (leafOf ver))) 0 reqs gs

theorem ss_batchG_none (E : Env) (K : Keys) (ver : Version) (now : Nat × Nat) (reqs : List (Datagram × Bytes))
    (gs : List Grease) (hg : ∀ g ∈ gs, g = Grease.none) : ss_batchG E K ver now reqs gs = expectedBatch E K ver now reqs := by
  simp only [ss_batchG, ss_batch_none _ _ _ _ hg, expectedBatch, ss_replyG_none, Nat.zero_add]

end Rough.Lemmas.ServerSpec
