import Rough.Model.SendFail
import Rough.Lemmas.Res
/-
  Lemmas for `send_responses`: what a successful call returns (`sendResponses_ok_inv`), and the call with failing
  `send_to`s as a refinement of the all-successful one (`sendResponsesF_refines`, `degradeAll`).
-/
namespace Rough
open Rough.Merkle Rough.Stats

/-- the statistics kind of a response of protocol `v` (the `match self.version` in `send_responses`) -/
def Lemmas.ServerSpec.ss_kindOf : Version → Kind
  | .google => Kind.classicResp
  | .ietf => Kind.rfcResp

namespace Responder
open Rough.Lemmas.ServerSpec (ss_kindOf)

theorem respondOne_shape {r : Responder} {debug : Bool} {srep : Msg} {idx : Nat} {nonce : Bytes} {src : Addr}
    {g : Grease} {s : Sent} {e : Event} (h : respondOne r debug srep idx nonce src g = .ok (s, e)) :
    s.dst = src ∧ e = ⟨ss_kindOf r.ver, src, s.bytes.length⟩ := by
  unfold respondOne at h
  obtain ⟨_, _, h⟩ := Res.of_bind_eq_ok h
  obtain ⟨_, _, h⟩ := Res.of_bind_eq_ok h
  obtain ⟨_, _, h⟩ := Res.of_bind_eq_ok h
  obtain ⟨_, _, h⟩ := Res.of_bind_eq_ok h
  cases h
  exact ⟨rfl, by cases r.ver <;> rfl⟩

theorem respondAll_shape (r : Responder) (debug : Bool) (srep : Msg) :
    ∀ (reqs : List (Bytes × Addr)) (idx : Nat) (gs : List Grease) (ss : List Sent) (es : List Event),
    respondAll r debug srep idx reqs gs = .ok (ss, es) →
      ss.map (·.dst) = reqs.map (·.2) ∧
      es = ss.map (fun s => (⟨ss_kindOf r.ver, s.dst, s.bytes.length⟩ : Event)) := by
  intro reqs
  induction reqs with
  | nil => intro idx gs ss es h; cases h; exact ⟨rfl, rfl⟩
  | cons q rest ih =>
    intro idx gs ss es h
    obtain ⟨⟨s, e⟩, h1, h⟩ := Res.of_bind_eq_ok h
    obtain ⟨⟨ss', es'⟩, h2, h⟩ := Res.of_bind_eq_ok h
    cases h
    obtain ⟨hd, rfl⟩ := respondOne_shape h1
    obtain ⟨i1, i2⟩ := ih _ _ _ _ h2
    exact ⟨by rw [List.map_cons, List.map_cons, hd, i1], by rw [List.map_cons, i2, hd]⟩

theorem sendResponses_ok_inv {E : Env} {r : Responder} {debug : Bool} {now : Nat × Nat} {gs : List Grease}
    {y : Responder × List Sent × List Event} (h : sendResponses E r debug now gs = .ok y) :
    y.1.requests = r.requests ∧ y.2.1.map (·.dst) = r.requests.map (·.2) ∧
      y.2.2 = y.2.1.map fun s => ⟨ss_kindOf r.ver, s.dst, s.bytes.length⟩ := by
  unfold sendResponses at h
  split at h
  · cases h; rename_i he; simp [List.isEmpty_iff.mp he]
  · obtain ⟨_, _, h⟩ := Res.of_bind_eq_ok h
    obtain ⟨_, _, h⟩ := Res.of_bind_eq_ok h
    obtain ⟨p, h2, h⟩ := Res.of_bind_eq_ok h
    cases h
    have := respondAll_shape _ _ _ _ _ _ p.1 p.2 h2
    exact ⟨rfl, this⟩

theorem sendResponses_ok_length {E : Env} {r : Responder} {debug : Bool} {now : Nat × Nat} {gs : List Grease}
    {y : Responder × List Sent × List Event} (h : sendResponses E r debug now gs = .ok y) :
    y.2.1.length = r.requests.length := by
  simpa only [List.length_map] using congrArg List.length (sendResponses_ok_inv h).2.1

theorem respondAllF_refines (ok : Addr → Nat → Bool) (r : Responder) (debug : Bool) (srep : Msg) :
    ∀ (reqs : List (Bytes × Addr)) (idx : Nat) (gs : List Grease),
    respondAllF ok r debug srep idx reqs gs =
      (respondAll r debug srep idx reqs gs).bind fun x => .ok (degradeAll ok idx x.1 x.2) := by
  intro reqs
  induction reqs with
  | nil => intro idx gs; rfl
  | cons q rest ih =>
    intro idx gs
    simp only [respondAllF, respondAll, respondOneF, ih, Res.bind_assoc, Res.bind_ok]
    -- the send outcome is asked for the request's source, which is where the datagram goes
    refine Res.bind_congr_ok fun se h => ?_
    have e : (if ok se.1.dst idx then Res.ok (some se.1, se.2) else .ok (none, ⟨Kind.failedSend, se.1.dst, 0⟩)) =
        Res.ok (degrade ok idx se.1 se.2) := by unfold degrade; split <;> rfl
    rw [← (respondOne_shape h).1, e, Res.bind_ok]
    rfl

theorem sendResponsesF_refines (ok : Addr → Nat → Bool) (E : Env) (r : Responder) (debug : Bool)
    (now : Nat × Nat) (gs : List Grease) :
    sendResponsesF ok E r debug now gs =
      (sendResponses E r debug now gs).bind fun x =>
        .ok (x.1, (degradeAll ok 0 x.2.1 x.2.2).1, (degradeAll ok 0 x.2.1 x.2.2).2) := by
  unfold sendResponsesF sendResponses
  split
  · rfl
  · simp only [Res.bind_assoc, respondAllF_refines, Res.bind_ok]

/-- the two kinds of event a `send_responses` call records: a response put on the wire, a send that failed -/
def isResp (e : Event) : Bool := e.kind == Kind.classicResp || e.kind == Kind.rfcResp
def isFailed (e : Event) : Bool := e.kind == Kind.failedSend

theorem degradeAll_account (ok : Addr → Nat → Bool) (v : Version) :
    ∀ (ss : List Sent) (idx : Nat),
    let es := ss.map (fun s => (⟨ss_kindOf v, s.dst, s.bytes.length⟩ : Event))
    let d := degradeAll ok idx ss es
    d.1.length = ss.length ∧ d.2.length = ss.length ∧
    d.2.map (·.addr) = ss.map (·.dst) ∧
    (d.2.map (·.bytes)).sum = ((d.1.filterMap id).map (·.bytes.length)).sum ∧
    (d.2.filter isResp).length = (d.1.filterMap id).length ∧
    (d.2.filter isFailed).length = (d.1.filter Option.isNone).length ∧
    (d.2.filter isResp).length + (d.2.filter isFailed).length = ss.length ∧
    (∀ e ∈ d.2, isResp e = true ∨ (isFailed e = true ∧ e.bytes = 0)) := by
  intro ss
  induction ss with
  | nil => intro idx; simp [degradeAll]
  | cons s rest ih =>
    intro idx
    -- a send that succeeds keeps its datagram and its response event; one that fails leaves `none` and a `failedSend`
    -- event of 0 bytes: either way every conjunct adds the head's share to the tail's
    obtain ⟨a1, a2, a3, a4, a5, a6, a7, a8⟩ := ih (idx + 1)
    have hr : isResp ⟨ss_kindOf v, s.dst, s.bytes.length⟩ = true := by cases v <;> rfl
    have hf : isFailed ⟨ss_kindOf v, s.dst, s.bytes.length⟩ = false := by cases v <;> rfl
    by_cases hk : ok s.dst idx
    · simp only [List.map_cons, degradeAll, degrade, hk, if_true, List.length_cons, List.filterMap_cons, id,
        List.sum_cons, List.filter_cons, hr, hf, Option.isNone_some, Bool.false_eq_true, if_false]
      exact ⟨by omega, by omega, by simp [a3], by omega, by omega, by omega, by omega,
        List.forall_mem_cons.mpr ⟨Or.inl hr, a8⟩⟩
    · have hr' : isResp ⟨Kind.failedSend, s.dst, 0⟩ = false := rfl
      have hf' : isFailed ⟨Kind.failedSend, s.dst, 0⟩ = true := rfl
      simp only [List.map_cons, degradeAll, degrade, hk, Bool.false_eq_true, if_false, List.length_cons,
        List.filterMap_cons, id, List.sum_cons, List.filter_cons, hr', hf', Option.isNone_none, if_true]
      exact ⟨by omega, by omega, by simp [a3], by omega, by omega, by omega, by omega,
        List.forall_mem_cons.mpr ⟨Or.inr ⟨hf', rfl⟩, a8⟩⟩

theorem degradeAll_allok (ok : Addr → Nat → Bool) (hok : ∀ a i, ok a i = true) :
    ∀ (ss : List Sent) (es : List Event) (idx : Nat), ss.length = es.length →
      degradeAll ok idx ss es = (ss.map some, es) := by
  intro ss
  induction ss with
  | nil => intro es idx h; rw [List.length_eq_zero_iff.mp h.symm]; rfl
  | cons s rest ih =>
    intro es idx h
    cases es with
    | nil => simp at h
    | cons e es' =>
      simp only [List.length_cons, Nat.add_right_cancel_iff] at h
      simp [degradeAll, degrade, hok, ih es' (idx + 1) h]

theorem sendResponsesF_all_ok (ok : Addr → Nat → Bool) (hok : ∀ a k, ok a k = true) (E : Env) (r : Responder)
    (debug : Bool) (now : Nat × Nat) (gs : List Grease) :
    sendResponsesF ok E r debug now gs =
      (sendResponses E r debug now gs).bind fun y => .ok (y.1, y.2.1.map some, y.2.2) := by
  rw [sendResponsesF_refines]
  refine Res.bind_congr_ok fun y h => ?_
  rw [degradeAll_allok ok hok _ _ 0 (by rw [(sendResponses_ok_inv h).2.2, List.length_map])]

end Responder
end Rough
