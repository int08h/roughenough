import Rough.Spec.MerkleTree
import Rough.Lemmas.Lists
/-
  Facts about the abstract Merkle tree of Spec/MerkleTree.lean only (no level vectors).  `build` and `depth` are freed
  of their fuel and `build` is reasoned about through `build_induction`; the root hash and the sibling paths of
  `build ts` are then expressed on lists of hashes, level by level (`lv`, `pathL`), the form in which the level-vector
  model computes them; completeness and binding of the verifier's climb are proved on `T` (`climb_descend`, `bind_T`).
-/
namespace Rough.Lemmas.Merkle
open Rough Rough.Merkle Rough.Spec.MT

theorem depthAux_least : ∀ (f n : Nat), n ≤ f + 1 →
    n ≤ 2 ^ depthAux f n ∧ ∀ k, n ≤ 2 ^ k → depthAux f n ≤ k := by
  intro f
  induction f with
  | zero => intro n h; simpa [depthAux] using h
  | succ f ih =>
    intro n h
    rw [depthAux]
    split
    · simpa using by omega
    · obtain ⟨h1, h2⟩ := ih ((n + 1) / 2) (by omega)
      refine ⟨by rw [Nat.pow_add]; omega, fun k hk => ?_⟩
      cases k with
      | zero => omega
      | succ k => have := h2 k (by rw [Nat.pow_succ] at hk; omega); omega

theorem depthAux_eq_depth (f n : Nat) (h : n ≤ f + 1) : depthAux f n = depth n :=
  have a := depthAux_least f n h
  have b := depthAux_least n n (by omega)
  Nat.le_antisymm (a.2 _ b.1) (b.2 _ a.1)

theorem le_two_pow_depth (n : Nat) : n ≤ 2 ^ depth n := (depthAux_least n n (by omega)).1

theorem depth_le_of_le_pow (k n : Nat) (h : n ≤ 2 ^ k) : depth n ≤ k := (depthAux_least n n (by omega)).2 k h

theorem depth_le_one (n : Nat) (h : n ≤ 1) : depth n = 0 :=
  Nat.le_zero.mp (depth_le_of_le_pow 0 n h)

theorem depth_step (n : Nat) (h : 2 ≤ n) : depth n = 1 + depth ((n + 1) / 2) := by
  obtain ⟨m, rfl⟩ : ∃ m, n = m + 1 := ⟨n - 1, by omega⟩
  rw [depth, depthAux, if_neg (by omega), depthAux_eq_depth _ _ (by omega)]

theorem pairT_length (ts : List T) : (pairT ts).length = (ts.length + 1) / 2 := by
  fun_induction pairT ts <;> simp_all <;> omega

theorem pairT_ne_nil {ts : List T} (h : ts ≠ []) : pairT ts ≠ [] := by
  have := pairT_length ts
  have := List.length_pos_iff.mpr h
  intro e; simp [e] at *; omega

theorem pairT_getElem? (ts : List T) (j : Nat) :
    (pairT ts)[j]? = ts[2 * j]?.map fun a => T.node a (ts[2 * j + 1]?.getD T.pad) := by
  fun_induction pairT ts generalizing j with
  | case1 a b rest ih => cases j <;> simp [Nat.mul_succ, ih]
  | case2 a => cases j <;> simp [Nat.mul_succ]
  | case3 => simp

theorem build_induction {P : List T → Prop} (single : ∀ t, P [t])
    (step : ∀ ts, 2 ≤ ts.length → P (pairT ts) → P ts) : ∀ ts, ts ≠ [] → P ts := by
  intro ts hne
  induction hn : ts.length using Nat.strongRecOn generalizing ts with
  | _ n ih =>
    have hpos := List.length_pos_iff.mpr hne
    by_cases h1 : n ≤ 1
    · obtain ⟨t, rfl⟩ := List.length_eq_one_iff.mp (by omega : ts.length = 1)
      exact single t
    · exact step ts (by omega) (ih _ (by rw [← hn, pairT_length]; omega) _ (pairT_ne_nil hne) rfl)

theorem buildAux_single (f : Nat) (t : T) : buildAux f [t] = t := by
  cases f <;> simp [buildAux]

theorem buildAux_succ (f : Nat) (ts : List T) (h : 2 ≤ ts.length) :
    buildAux (f + 1) ts = buildAux f (pairT ts) := by
  match ts, h with
  | a :: b :: rest, _ => simp [buildAux]

theorem buildAux_eq_build : ∀ (ts : List T), ts ≠ [] → ∀ f, ts.length ≤ f + 1 → buildAux f ts = build ts := by
  apply build_induction
  · intro t f _; simp [build, buildAux_single]
  · intro ts h2 ih f hf
    obtain ⟨f, rfl⟩ : ∃ g, f = g + 1 := ⟨f - 1, by omega⟩
    obtain ⟨n, hn⟩ : ∃ n, ts.length = n + 1 := ⟨ts.length - 1, by omega⟩
    have hp := pairT_length ts
    rw [build, hn, buildAux_succ f ts h2, buildAux_succ n ts h2, ih f (by omega), ih n (by omega)]

theorem build_single (t : T) : build [t] = t := buildAux_single _ t

theorem build_step (ts : List T) (h : 2 ≤ ts.length) : build ts = build (pairT ts) := by
  obtain ⟨n, hn⟩ : ∃ n, ts.length = n + 1 := ⟨ts.length - 1, by omega⟩
  have hp := pairT_length ts
  have hne : ts ≠ [] := by intro e; simp [e] at h
  rw [build, hn, buildAux_succ n ts h, buildAux_eq_build _ (pairT_ne_nil hne) n (by omega)]

theorem depth_pairT (ts : List T) (h : 2 ≤ ts.length) : depth ts.length = depth (pairT ts).length + 1 := by
  rw [depth_step _ h, pairT_length, Nat.add_comm]

theorem descend_cons {t t' : T} {b : Bool} {bs : List Bool} (h : descend t (b :: bs) = some t') :
    ∃ l r, t = .node l r ∧ descend (if b then r else l) bs = some t' := by
  cases t with
  | node l r => exact ⟨l, r, rfl, h⟩
  | leaf d => cases h
  | pad => cases h

theorem descend_append : ∀ (a : List Bool) (t t' : T) (b : List Bool), descend t a = some t' →
    descend t (a ++ b) = descend t' b := by
  intro a
  induction a with
  | nil => intro t t' b h; cases h; rfl
  | cons x a ih =>
    intro t t' b h
    obtain ⟨l, r, rfl, h⟩ := descend_cons h
    exact ih _ _ b h

theorem siblings_append (c : MerkleCfg) : ∀ (a : List Bool) (t t' : T) (b : List Bool), descend t a = some t' →
    siblings c t (a ++ b) = siblings c t a ++ siblings c t' b := by
  intro a
  induction a with
  | nil => intro t t' b h; cases h; cases t <;> rfl
  | cons x a ih =>
    intro t t' b h
    obtain ⟨l, r, rfl, h⟩ := descend_cons h
    exact congrArg (_ :: ·) (ih _ _ b h)

@[simp] theorem siblings_nil (c : MerkleCfg) (t : T) : siblings c t [] = [] := by
  cases t <;> rfl

theorem bitsOf_length (i k : Nat) : (bitsOf i k).length = k := by
  induction k generalizing i with
  | zero => rfl
  | succ k ih => simp [bitsOf, ih]

theorem pairT_parent (ts : List T) (i : Nat) (hi : i < ts.length) :
    ∃ l r, (pairT ts)[i / 2]? = some (T.node l r) ∧ (if i % 2 = 1 then r else l) = ts[i] ∧
      (if i % 2 = 1 then l else r) = (ts[if i % 2 = 0 then i + 1 else i - 1]?).getD T.pad := by
  obtain ⟨j, rfl | rfl⟩ : ∃ j, i = 2 * j ∨ i = 2 * j + 1 := ⟨i / 2, by omega⟩
  · refine ⟨ts[2 * j], (ts[2 * j + 1]?).getD T.pad, ?_, by simp⟩
    rw [Nat.mul_div_cancel_left _ (by omega : 0 < 2), pairT_getElem?, List.getElem?_eq_getElem hi]; rfl
  · have h2 : 2 * j < ts.length := by omega
    refine ⟨ts[2 * j], (ts[2 * j + 1]?).getD T.pad, ?_, by simp [hi, h2]⟩
    rw [show (2 * j + 1) / 2 = j by omega, pairT_getElem?, List.getElem?_eq_getElem h2]; rfl

theorem descend_build : ∀ (ts : List T), ts ≠ [] → ∀ (i : Nat) (hi : i < ts.length),
    descend (build ts) (bitsOf i (depth ts.length)).reverse = some ts[i] := by
  apply build_induction
  · intro t i hi
    obtain rfl : i = 0 := by simpa using hi
    simp [build_single, depth_le_one, bitsOf, descend]
  · intro ts h2 ih i hi
    obtain ⟨l, r, hp, hc, _⟩ := pairT_parent ts i hi
    obtain ⟨hlt, hp⟩ := List.getElem?_eq_some_iff.mp hp
    rw [build_step ts h2, depth_pairT ts h2, bitsOf, List.reverse_cons, descend_append _ _ _ _ (ih (i / 2) hlt), hp,
      ← hc]
    by_cases h : i % 2 = 1 <;> simp [descend, h]

/-- every `leaf` of the tree is at depth exactly `h` (a `pad` may stand for a whole missing subtree) -/
def shape : Nat → T → Prop
  | _, .pad => True
  | 0, .leaf _ => True
  | 0, .node _ _ => False
  | _ + 1, .leaf _ => False
  | h + 1, .node l r => shape h l ∧ shape h r

theorem shape_descend_leaf : ∀ (bs : List Bool) (h : Nat) (t : T) (d : Bytes),
    shape h t → descend t bs = some (T.leaf d) → bs.length = h := by
  intro bs
  induction bs with
  | nil =>
    intro h t d hs hd
    cases hd
    cases h with
    | zero => rfl
    | succ h => exact (hs : False).elim
  | cons b bs ih =>
    intro h t d hs hd
    obtain ⟨l, r, rfl, hd⟩ := descend_cons hd
    cases h with
    | zero => cases hs
    | succ h =>
      have hs : shape h l ∧ shape h r := hs
      exact congrArg (· + 1) (ih h _ d (by cases b <;> simp [hs.1, hs.2]) hd)

theorem shape_pairT (h : Nat) (ts : List T) (hs : ∀ t ∈ ts, shape h t) :
    ∀ t ∈ pairT ts, shape (h + 1) t := by
  fun_induction pairT ts with
  | case1 a b rest ih =>
    exact List.forall_mem_cons.mpr
      ⟨⟨hs a List.mem_cons_self, hs b (List.mem_cons_of_mem _ List.mem_cons_self)⟩,
        ih fun t ht => hs t (List.mem_cons_of_mem _ (List.mem_cons_of_mem _ ht))⟩
  -- a last element without sibling is paired with `pad`, which has every shape
  | case2 a => exact List.forall_mem_cons.mpr ⟨⟨hs a List.mem_cons_self, by cases h <;> trivial⟩, nofun⟩
  | case3 => exact nofun

theorem shape_build : ∀ (ts : List T), ts ≠ [] → ∀ h, (∀ t ∈ ts, shape h t) →
    shape (h + depth ts.length) (build ts) := by
  apply build_induction
  · intro t h hs
    simpa [build_single, depth_le_one] using hs
  · intro ts h2 ih h hs
    rw [build_step ts h2, depth_pairT ts h2, Nat.add_comm _ 1, ← Nat.add_assoc]
    exact ih (h + 1) (shape_pairT h ts hs)

/-! ### the level-list view -/

/-- an odd level gets the zero node appended (the test is that of `rootLoop`) -/
def padLevel (c : MerkleCfg) (l : List Bytes) : List Bytes :=
  if l.length % 2 ≠ 0 then l ++ [zeros c.N] else l

/-- what `pushParents` appends for a level: the hashes of adjacent pairs (a trailing odd element is dropped) -/
def pairUp (c : MerkleCfg) : List Bytes → List Bytes
  | a :: b :: rest => hashNodes c a b :: pairUp c rest
  | _ => []

/-- one level up: the hash-level image of `pairT` -/
def up (c : MerkleCfg) : List Bytes → List Bytes
  | a :: b :: rest => hashNodes c a b :: up c rest
  | [a] => [hashNodes c a (zeros c.N)]
  | [] => []

/-- `j` levels up -/
def lv (c : MerkleCfg) : Nat → List Bytes → List Bytes
  | 0, l => l
  | j + 1, l => lv c j (up c l)

/-- the sibling of position `i` in a level (the zero node where the level is odd and `i` is last) -/
def sibOf (c : MerkleCfg) (l : List Bytes) (i : Nat) : Bytes :=
  (l[if i % 2 = 0 then i + 1 else i - 1]?).getD (zeros c.N)

/-- sibling path of length `k`, bottom first, computed on level lists -/
def pathL (c : MerkleCfg) : Nat → List Bytes → Nat → List Bytes
  | 0, _, _ => []
  | k + 1, l, i => sibOf c l i :: pathL c k (up c l) (i / 2)

theorem map_hash_pairT (c : MerkleCfg) (ts : List T) :
    (pairT ts).map (T.hash c) = up c (ts.map (T.hash c)) := by
  -- the three equations of `up` are the images under `T.hash` of the three of `pairT`
  fun_induction pairT ts with
  | case1 a b rest ih => exact congrArg (_ :: ·) ih
  | case2 a => rfl
  | case3 => rfl

theorem hash_build (c : MerkleCfg) : ∀ (ts : List T), ts ≠ [] →
    lv c (depth ts.length) (ts.map (T.hash c)) = [T.hash c (build ts)] := by
  apply build_induction
  · intro t; simp [build_single, depth_le_one, lv]
  · intro ts h2 ih
    rw [build_step ts h2, depth_pairT ts h2, lv, ← map_hash_pairT]
    exact ih

theorem padLevel_cons_cons (c : MerkleCfg) (a b : Bytes) (rest : List Bytes) :
    padLevel c (a :: b :: rest) = a :: b :: padLevel c rest := by
  have e : (rest.length + 1 + 1) % 2 = rest.length % 2 := by omega
  simp only [padLevel, List.length_cons, e]
  split <;> rfl

theorem up_eq_pairUp (c : MerkleCfg) (l : List Bytes) : up c l = pairUp c (padLevel c l) := by
  fun_induction up c l with
  | case1 a b rest ih => rw [padLevel_cons_cons, pairUp, ih]
  | case2 a => rfl
  | case3 => rfl

theorem up_length (c : MerkleCfg) (l : List Bytes) : (up c l).length = (l.length + 1) / 2 := by
  fun_induction up c l <;> simp_all <;> omega

theorem padLevel_length (c : MerkleCfg) (l : List Bytes) : (padLevel c l).length = 2 * (up c l).length := by
  fun_induction up c l with
  | case1 a b rest ih => rw [padLevel_cons_cons, List.length_cons, List.length_cons, ih, List.length_cons, Nat.mul_succ]
  | case2 a => rfl
  | case3 => rfl

theorem padLevel_getElem? (c : MerkleCfg) (l : List Bytes) (j : Nat) (h : j < (padLevel c l).length) :
    (padLevel c l)[j]? = some (l[j]?.getD (zeros c.N)) := by
  unfold padLevel at h ⊢
  by_cases hodd : l.length % 2 ≠ 0
  · rw [if_pos hodd] at h ⊢
    rw [List.length_append, List.length_singleton] at h
    rcases Nat.lt_succ_iff_lt_or_eq.mp h with hj | rfl
    · rw [List.getElem?_append_left hj, List.getElem?_eq_getElem hj]; rfl
    · simp
  · rw [if_neg hodd] at h ⊢
    rw [List.getElem?_eq_getElem h]; rfl

theorem sibOf_map_hash (c : MerkleCfg) (ts : List T) (i : Nat) :
    sibOf c (ts.map (T.hash c)) i = T.hash c ((ts[if i % 2 = 0 then i + 1 else i - 1]?).getD T.pad) := by
  rw [sibOf, List.getElem?_map]
  cases ts[if i % 2 = 0 then i + 1 else i - 1]? <;> rfl

theorem siblings_build (c : MerkleCfg) : ∀ (ts : List T), ts ≠ [] → ∀ (i : Nat), i < ts.length →
    (siblings c (build ts) (bitsOf i (depth ts.length)).reverse).reverse
      = pathL c (depth ts.length) (ts.map (T.hash c)) i := by
  apply build_induction
  · intro t i _
    simp [depth_le_one, bitsOf, pathL]
  · intro ts h2 ih i hi
    obtain ⟨l, r, hp, _, hs⟩ := pairT_parent ts i hi
    obtain ⟨hlt, hp⟩ := List.getElem?_eq_some_iff.mp hp
    have hd := descend_build (pairT ts) (pairT_ne_nil (by intro e; simp [e] at hi)) (i / 2) hlt
    rw [build_step ts h2, depth_pairT ts h2, bitsOf, List.reverse_cons, siblings_append c _ _ _ _ hd, hp,
      List.reverse_append, ih (i / 2) hlt, pathL, map_hash_pairT, sibOf_map_hash c ts i, ← hs]
    by_cases h : i % 2 = 1 <;> simp [siblings, h]

/-! ### the verifier as a fold over `(direction, sibling)` steps -/

/-- one verifier step: combine the running hash `x` with sibling `s.2` on the side `s.1` says -/
def stepUp (c : MerkleCfg) (s : Bool × Bytes) (x : Bytes) : Bytes :=
  if s.1 then hashNodes c s.2 x else hashNodes c x s.2

/-- the verifier over steps listed top first -/
def climb (c : MerkleCfg) (h : Bytes) (steps : List (Bool × Bytes)) : Bytes := steps.foldr (stepUp c) h

theorem climbChunks_eq_climb (c : MerkleCfg) : ∀ (ps : List Bytes) (h : Bytes) (i : Nat),
    climbChunks c h i ps = climb c h ((bitsOf i ps.length).zip ps).reverse := by
  intro ps
  induction ps with
  | nil => intro h i; rfl
  | cons p ps ih =>
    intro h i
    rw [climbChunks, ih, List.length_cons, bitsOf, List.zip_cons_cons, List.reverse_cons, climb, climb,
      List.foldr_append]
    by_cases h0 : i % 2 = 0
    · simp [stepUp, h0]
    · simp [stepUp, show i % 2 = 1 by omega]

theorem hash_length (c : MerkleCfg) (hl : HashLen c) (t : T) : (T.hash c t).length = c.N := by
  cases t <;> simp [T.hash, hashLeaf, hashNodes, hl _, zeros]

theorem siblings_length (c : MerkleCfg) : ∀ (bs : List Bool) (t t' : T), descend t bs = some t' →
    (siblings c t bs).length = bs.length := by
  intro bs
  induction bs with
  | nil => simp
  | cons x bs ih =>
    intro t t' h
    obtain ⟨l, r, rfl, h⟩ := descend_cons h
    exact congrArg (· + 1) (ih _ _ h)

theorem siblings_mem_length (c : MerkleCfg) (hl : HashLen c) : ∀ (bs : List Bool) (t : T),
    ∀ x ∈ siblings c t bs, x.length = c.N := by
  intro bs
  induction bs with
  | nil => simp
  | cons b bs ih =>
    intro t x hx
    cases t with
    | leaf d => simp [siblings] at hx
    | pad => simp [siblings] at hx
    | node l r =>
      simp only [siblings, List.mem_cons] at hx
      rcases hx with rfl | hx
      · exact hash_length c hl _
      · exact ih _ x hx

theorem climb_descend (c : MerkleCfg) : ∀ (bs : List Bool) (t t' : T), descend t bs = some t' →
    climb c (T.hash c t') (bs.zip (siblings c t bs)) = T.hash c t := by
  intro bs
  induction bs with
  | nil => intro t t' h; cases h; rfl
  | cons b bs ih =>
    intro t t' h
    obtain ⟨l, r, rfl, h⟩ := descend_cons h
    have := ih _ _ h
    rw [climb] at this ⊢
    rw [siblings, List.zip_cons_cons, List.foldr_cons, this]
    cases b <;> rfl

theorem hn_inj {c : MerkleCfg} {x y : Bytes} (h : c.hn x = c.hn y) : Broken c ∨ x = y := by
  by_cases e : x = y
  · exact .inr e
  · exact .inl (.inl ⟨x, y, e, h⟩)

/-- binding on `T`: `steps` is top first.  In every case the hypothesis `h` is, by unfolding, an equation
    `c.hn x = c.hn y` (or `c.hn x = zeros c.N` at a pad node) between inputs that start with the leaf tweak `0` or the
    node tweak `1`; `hn_inj` turns it into a collision or `x = y`, and `x = y` is absurd when the tweaks differ. -/
theorem bind_T (c : MerkleCfg) (hl : HashLen c) : ∀ (t : T) (steps : List (Bool × Bytes)) (d' : Bytes),
    (∀ s ∈ steps, s.2.length = c.N) →
    climb c (hashLeaf c d') steps = T.hash c t →
    Broken c ∨ (descend t (steps.map (·.1)) = some (T.leaf d') ∧
      siblings c t (steps.map (·.1)) = steps.map (·.2)) := by
  intro t
  induction t with
  | leaf d =>
    intro steps d' _ h
    cases steps with
    | nil => exact (hn_inj h).imp_right fun e => by cases e; simp [descend]
    | cons s rest =>
      obtain ⟨b, p⟩ := s
      cases b <;> exact (hn_inj h).imp_right fun e => by cases e
  | pad =>
    intro steps d' _ h
    cases steps with
    | nil => exact .inl (.inr ⟨_, h⟩)
    | cons s rest => obtain ⟨b, p⟩ := s; cases b <;> exact .inl (.inr ⟨_, h⟩)
  | node l r ihl ihr =>
    intro steps d' hlen h
    cases steps with
    | nil => exact (hn_inj h).imp_right fun e => by cases e
    | cons s rest =>
      obtain ⟨b, p⟩ := s
      have hp : p.length = c.N := hlen (b, p) (by simp)
      have hrest : ∀ s ∈ rest, s.2.length = c.N := fun s hs => hlen s (by simp [hs])
      have hL := hash_length c hl l
      have hR := hash_length c hl r
      cases b
      -- both inputs are `1 :: (left ++ right)` with halves of width `c.N`, so equal inputs have equal halves
      · rcases hn_inj h with hb | e
        · exact .inl hb
        · obtain ⟨e1, e2⟩ := List.append_inj' (List.cons.inj e).2 (by rw [hp, hR])
          exact (ihl rest d' hrest e1).imp_right fun ⟨h1, h2⟩ => by
            simp [descend, siblings, h1, h2, show T.hash c r = p from e2.symm]
      · rcases hn_inj h with hb | e
        · exact .inl hb
        · obtain ⟨e1, e2⟩ := List.append_inj (List.cons.inj e).2 (by rw [hp, hL])
          exact (ihr rest d' hrest e2).imp_right fun ⟨h1, h2⟩ => by
            simp [descend, siblings, h1, h2, show T.hash c l = p from e1.symm]

end Rough.Lemmas.Merkle
