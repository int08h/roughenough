import Rough.Spec.Roughtime
import Rough.Lemmas.SpecRT
/-
  The parsed response (proof vocabulary, not part of the specification).  The reference verifier
  `RT.verifyResponse`, the authenticity predicate `RT.authentic` and the client model all read the
  same values out of a response body and put largely the same conditions on them.  `Resp` names
  those values, `Resp.parse` reads them, `Resp.Core` is what all three check; each acceptor is
  characterised once as "strip the frame, parse, `Core`, and its own extras" (`authentic_eq_some`
  here, `verifyResponse_ok/_of` in RespVerify, `handleParsed_some/_of` for the client).
-/
namespace Rough.Lemmas.RT
open Rough Rough.Spec Rough.Spec.RT

/-- what an acceptor reads out of a response body: the four messages and the values it uses -/
structure Resp where
  msg : Msg
  cert : Msg
  dele : Msg
  srep : Msg
  sig : Bytes
  path : Bytes
  srepB : Bytes
  certB : Bytes
  indxB : Bytes
  certSig : Bytes
  deleB : Bytes
  pubk : Bytes
  mint : Bytes
  maxt : Bytes
  midp : Bytes
  radi : Bytes
  root : Bytes

namespace Resp

/-- the reads, in the order of `RT.authentic` -/
def parse (body : Bytes) : Option Resp := do
  let m ← decode body
  let sig ← m.get Tag.SIG
  let path ← m.get Tag.PATH
  let srepB ← m.get Tag.SREP
  let certB ← m.get Tag.CERT
  let indxB ← m.get Tag.INDX
  let cert ← decode certB
  let certSig ← cert.get Tag.SIG
  let deleB ← cert.get Tag.DELE
  let dele ← decode deleB
  let pubk ← dele.get Tag.PUBK
  let mint ← dele.get Tag.MINT
  let maxt ← dele.get Tag.MAXT
  let srep ← decode srepB
  let midp ← srep.get Tag.MIDP
  let radi ← srep.get Tag.RADI
  let root ← srep.get Tag.ROOT
  pure ⟨m, cert, dele, srep, sig, path, srepB, certB, indxB, certSig, deleB, pubk, mint, maxt, midp, radi, root⟩

/-- the values of `f` are the ones its messages hold, and the nested messages decode from them -/
structure Reads (f : Resp) : Prop where
  sig : f.msg.get Tag.SIG = some f.sig
  path : f.msg.get Tag.PATH = some f.path
  srepB : f.msg.get Tag.SREP = some f.srepB
  certB : f.msg.get Tag.CERT = some f.certB
  indxB : f.msg.get Tag.INDX = some f.indxB
  cert : decode f.certB = some f.cert
  certSig : f.cert.get Tag.SIG = some f.certSig
  deleB : f.cert.get Tag.DELE = some f.deleB
  dele : decode f.deleB = some f.dele
  pubk : f.dele.get Tag.PUBK = some f.pubk
  mint : f.dele.get Tag.MINT = some f.mint
  maxt : f.dele.get Tag.MAXT = some f.maxt
  srep : decode f.srepB = some f.srep
  midp : f.srep.get Tag.MIDP = some f.midp
  radi : f.srep.get Tag.RADI = some f.radi
  root : f.srep.get Tag.ROOT = some f.root

theorem parse_eq_some {body : Bytes} {f : Resp} : parse body = some f ↔ decode body = some f.msg ∧ f.Reads := by
  simp only [parse, bind, pure, Option.bind_eq_some_iff, Option.some.injEq]
  constructor
  · rintro ⟨m, hm, sig, h1, path, h2, srepB, h3, certB, h4, indxB, h5, cert, hc, certSig, h6, deleB, h7, dele, hd, pubk, h8,
      mint, h9, maxt, h10, srep, hs, midp, h11, radi, h12, root, h13, rfl⟩
    exact ⟨hm, h1, h2, h3, h4, h5, hc, h6, h7, hd, h8, h9, h10, hs, h11, h12, h13⟩
  · rintro ⟨hm, r⟩
    exact ⟨_, hm, _, r.sig, _, r.path, _, r.srepB, _, r.certB, _, r.indxB, _, r.cert, _, r.certSig, _, r.deleB, _, r.dele,
      _, r.pubk, _, r.mint, _, r.maxt, _, r.srep, _, r.midp, _, r.radi, _, r.root, rfl⟩

def result (f : Resp) : Nat × Nat := (u64le f.midp, u32le f.radi)

/-- the Merkle leaf of a request: the nonce (classic) or the whole packet (draft-13) -/
def leafFor (p : Proto) (nonce request : Bytes) : Bytes :=
  match p with | .classic => nonce | .draft13 => request

/-- what every acceptor checks of a parsed response: the integers can be read, the signature chain
    from `ltpk` under the protocol's context strings, the delegation window, and the Merkle path
    from `leaf` to the signed root -/
structure Core (S : SigScheme) (H : Bytes → Bytes) (p : Proto) (ltpk leaf : Bytes) (f : Resp) : Prop where
  midp8 : 8 ≤ f.midp.length
  radi4 : 4 ≤ f.radi.length
  mint8 : 8 ≤ f.mint.length
  maxt8 : 8 ≤ f.maxt.length
  indx4 : 4 ≤ f.indxB.length
  certSig64 : f.certSig.length = 64
  sig64 : f.sig.length = 64
  pubk32 : f.pubk.length = 32
  deleOK : S.verify ltpk (deleCtx p ++ f.deleB) f.certSig = true
  srepOK : S.verify f.pubk (srepCtx p ++ f.srepB) f.sig = true
  lo : u64le f.mint ≤ u64le f.midp
  hi : u64le f.midp ≤ u64le f.maxt
  pathMod : f.path.length % nodeWidth p = 0
  climb : climb H p (hash H p ((0x00 : UInt8) :: leaf)) (u32le f.indxB) (chunks (nodeWidth p) f.path) = f.root

/-- the checks of `RT.authentic`, in its order -/
def auth (S : SigScheme) (H : Bytes → Bytes) (p : Proto) (ltpk leaf : Bytes) (f : Resp) : Option (Nat × Nat) :=
  if f.midp.length < 8 ∨ f.radi.length < 4 ∨ f.mint.length < 8 ∨ f.maxt.length < 8 ∨ f.indxB.length < 4 then none else
  if f.certSig.length ≠ 64 ∨ f.sig.length ≠ 64 ∨ f.pubk.length ≠ 32 then none else
  if ¬ S.pkValid ltpk ∨ ¬ S.pkValid f.pubk then none else
  if ¬ S.verify ltpk (deleCtx p ++ f.deleB) f.certSig then none else
  if ¬ S.verify f.pubk (srepCtx p ++ f.srepB) f.sig then none else
  if ¬ (u64le f.mint ≤ u64le f.midp ∧ u64le f.midp ≤ u64le f.maxt) then none else
  if f.path.length % nodeWidth p ≠ 0 then none else
  if climb H p (hash H p ((0x00 : UInt8) :: leaf)) (u32le f.indxB) (chunks (nodeWidth p) f.path) ≠ f.root then none else
  some f.result

theorem auth_eq_some {S : SigScheme} {H : Bytes → Bytes} {p : Proto} {ltpk leaf : Bytes} {f : Resp}
    {res : Nat × Nat} :
    auth S H p ltpk leaf f = some res ↔
      Core S H p ltpk leaf f ∧ S.pkValid ltpk = true ∧ S.pkValid f.pubk = true ∧ f.result = res := by
  simp only [auth, Option.ite_none_left_eq_some, Option.some.injEq, not_or, ne_eq, Decidable.not_not, Nat.not_lt]
  constructor
  · rintro ⟨⟨a1, a2, a3, a4, a5⟩, ⟨b1, b2, b3⟩, ⟨c1, c2⟩, d, e, ⟨g1, g2⟩, h, i, j⟩
    exact ⟨⟨a1, a2, a3, a4, a5, b1, b2, b3, d, e, g1, g2, h, i⟩, c1, c2, j⟩
  · rintro ⟨c, c1, c2, j⟩
    exact ⟨⟨c.midp8, c.radi4, c.mint8, c.maxt8, c.indx4⟩, ⟨c.certSig64, c.sig64, c.pubk32⟩, ⟨c1, c2⟩, c.deleOK,
      c.srepOK, ⟨c.lo, c.hi⟩, c.pathMod, c.climb, j⟩

end Resp

/-- the frame check of `RT.authentic` -/
def aframe (p : Proto) (response : Bytes) : Option Bytes :=
  match p with
  | .classic => some response
  | .draft13 => if response.length ≥ 12 ∧ response.take 8 = magic then some (response.drop 12) else none

theorem authentic_eq (S : SigScheme) (H : Bytes → Bytes) (p : Proto) (ltpk request nonce response : Bytes) :
    authentic S H p ltpk request nonce response =
      (aframe p response).bind fun body =>
        (Resp.parse body).bind (Resp.auth S H p ltpk (Resp.leafFor p nonce request)) := by
  unfold authentic
  extract_lets leaf K
  -- both sides make the same 17 reads: they are taken off together, and what is left is `Resp.auth` on the record
  -- read against the checks of `RT.authentic`, which agree by unfolding (each `if c then none` of the do-block is
  -- `if c then none >>= jp else jp ()`, and `none >>= jp` reduces to `none`)
  have hK : ∀ body, (Resp.parse body).bind (Resp.auth S H p ltpk leaf) = K body := by
    intro body
    unfold Resp.parse
    iterate 17 refine (Option.bind_assoc ..).trans (Option.bind_congr fun _ _ => ?_)
    rfl
  cases p
  · exact (hK response).symm
  · simp only [aframe]
    split
    · exact (hK _).symm
    · rfl

theorem authentic_eq_some {S : SigScheme} {H : Bytes → Bytes} {p : Proto} {ltpk request nonce response : Bytes}
    {res : Nat × Nat} :
    authentic S H p ltpk request nonce response = some res ↔
      ∃ body, aframe p response = some body ∧ ∃ f, Resp.parse body = some f ∧
        f.Core S H p ltpk (Resp.leafFor p nonce request) ∧
        S.pkValid ltpk = true ∧ S.pkValid f.pubk = true ∧ f.result = res := by
  simp only [authentic_eq, Option.bind_eq_some_iff, Resp.auth_eq_some]

end Rough.Lemmas.RT
