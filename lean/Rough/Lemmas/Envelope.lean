import Rough.Model.Envelope
import Rough.Lemmas.Bytes
/-
  Lemmas for C14 about the envelope model (Model/Envelope.lean, src/kms/envelope.rs): `parse` and `layout` are mutually
  inverse, what a successful `decrypt` went through, that it has no panic branch, the tamper reduction.
-/
namespace Rough.Lemmas.Envelope
open Rough Rough.Lemmas Rough.Envelope

theorem layout_length (w n ct : Bytes) :
    (layout w n ct).length = 4 + w.length + n.length + ct.length := by
  simp [layout, List.length_append]; omega

theorem parse_layout (w nonce ct : Bytes) (hn : nonce.length = 12) (hwl : w.length < 2 ^ 16)
    (hmin : MIN_PAYLOAD_SIZE ≤ 4 + w.length + 12 + ct.length) :
    parse (layout w nonce ct) = some (w, nonce, ct) := by
  have hlen := layout_length w nonce ct
  have e : layout w nonce ct = le16 w.length ++ (le16 nonce.length ++ (w ++ (nonce ++ ct))) := by
    simp only [layout, List.append_assoc]
  have d2 : (layout w nonce ct).drop 2 = le16 nonce.length ++ (w ++ (nonce ++ ct)) := by
    rw [e, List.drop_left' (le16_length _)]
  have d4 : (layout w nonce ct).drop 4 = w ++ (nonce ++ ct) := by
    rw [← List.drop_drop (i := 2) (j := 2), d2, List.drop_left' (le16_length _)]
  have h1 : rd16 (layout w nonce ct) = w.length := by rw [e, rd16_le16_append, Nat.mod_eq_of_lt hwl]
  have h2 : rd16 ((layout w nonce ct).drop 2) = 12 := by rw [d2, rd16_le16_append, hn]
  unfold parse
  simp only [h1, h2, d4, List.take_left', List.drop_left', List.length_append]
  -- none of the four checks fails; then the nonce is the next 12 bytes
  rw [if_neg (by omega), if_neg (by omega), if_neg (by omega), if_neg (by omega), ← hn, List.take_left' rfl,
    List.drop_left' rfl]

theorem layout_of_parse {b w n ct : Bytes} (h : parse b = some (w, n, ct)) :
    b = layout w n ct ∧ n.length = 12 ∧ w.length < 2 ^ 16 ∧
      MIN_PAYLOAD_SIZE ≤ 4 + w.length + 12 + ct.length := by
  unfold parse at h
  -- what the four checks let through, and the three pieces as cut from `b`
  simp only [MIN_PAYLOAD_SIZE, Option.ite_none_left_eq_some, Option.some.injEq, Prod.mk.injEq, not_or,
    Nat.not_lt, Decidable.not_not] at h
  obtain ⟨hmin, ⟨hN, -⟩, hr, hr2, rfl, rfl, rfl⟩ := h
  have hw : ((b.drop 4).take (rd16 b)).length = rd16 b := List.length_take_of_le hr
  have hn : (((b.drop 4).drop (rd16 b)).take 12).length = 12 := List.length_take_of_le hr2
  refine ⟨?_, hn, hw.symm ▸ rd16_lt b, ?_⟩
  · -- the two length fields are the first four bytes of `b`, the pieces are the rest
    rw [layout, hw, hn, ← hN, List.append_assoc, List.append_assoc, List.take_append_drop, List.take_append_drop,
      List.append_assoc, show b.drop 4 = (b.drop 2).drop 2 from (List.drop_drop (i := 2) (j := 2)).symm,
      le16_rd16 (by rw [List.length_drop]; omega), le16_rd16 (by omega)]
  · rw [hw, List.length_drop, List.length_drop, List.length_drop, MIN_PAYLOAD_SIZE]
    omega

theorem decrypt_ok {K : Kms} {A : Aead} {blob p : Bytes} (h : decrypt K A blob = .ok p) :
    ∃ w n c dek, parse blob = some (w, n, c) ∧ K.unwrap w = some dek ∧ dek.length = 32 ∧
      A.openF dek n AD c = some p := by
  unfold decrypt at h
  split at h
  · cases h
  rename_i w n c hp
  split at h
  · cases h
  rename_i dek hu
  split at h
  · cases h
  rename_i hl
  split at h
  · rename_i p0 ho
    cases h
    exact ⟨w, n, c, dek, hp, hu, by omega, ho⟩
  · cases h

theorem decrypt_err_of_len {K : Kms} {A : Aead} {blob w n c dek : Bytes}
    (hp : parse blob = some (w, n, c)) (hu : K.unwrap w = some dek) (hl : dek.length ≠ 32) :
    decrypt K A blob = .err := by
  unfold decrypt
  simp only [hp, hu, hl, ne_eq, not_false_eq_true, if_true]

theorem decrypt_of_open {K : Kms} {A : Aead} {blob w n c dek p : Bytes}
    (hp : parse blob = some (w, n, c)) (hu : K.unwrap w = some dek) (hl : dek.length = 32)
    (ho : A.openF dek n AD c = some p) :
    decrypt K A blob = .ok p := by
  unfold decrypt
  simp only [hp, hu, hl, ho, ne_eq, not_true_eq_false, if_false]

theorem tamper (K : Kms) (A : Aead) (w nonce ct : Bytes) (_hn : nonce.length = 12)
    (_hwl : w.length < 2 ^ 16)
    (_hmin : MIN_PAYLOAD_SIZE ≤ 4 + w.length + 12 + ct.length)
    (blob' p' : Bytes) (hne : blob' ≠ layout w nonce ct) (hdec : decrypt K A blob' = .ok p') :
    ∃ w' n' c' dek', parse blob' = some (w', n', c') ∧ (w', n', c') ≠ (w, nonce, ct) ∧
      K.unwrap w' = some dek' ∧ dek'.length = 32 ∧ A.openF dek' n' AD c' = some p' := by
  obtain ⟨w', n', c', dek', hp, hu, hl, ho⟩ := decrypt_ok hdec
  refine ⟨w', n', c', dek', hp, ?_, hu, hl, ho⟩
  intro heq
  simp only [Prod.mk.injEq] at heq
  obtain ⟨rfl, rfl, rfl⟩ := heq
  exact hne (layout_of_parse hp).1

theorem decrypt_not_panic (K : Kms) (A : Aead) (blob : Bytes) :
    (decrypt K A blob).isPanic = false := by
  unfold decrypt
  split
  · rfl
  · split
    · rfl
    · split
      · rfl
      · split <;> rfl

end Rough.Lemmas.Envelope
