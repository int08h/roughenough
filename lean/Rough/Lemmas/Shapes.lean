import Rough.Lemmas.KeysBasic
import Rough.Spec.ServerSpec
/-
  The shapes of the protocol's messages.  Every message the server, the client and the reference responder build is a
  literal list of (tag, value) pairs.  What is needed of such a message is that `buildMsg` returns it
  (`Keys.buildMsg_sorted`), that the reference decoder reads its encoding back (`decode_encode_mk`), its encoded size,
  and its fields (`Msg.get` on a shape is closed by `rfl`).  DELE, CERT, SREP (per protocol), {SIG, SREP} and the
  response are named here once; the constructors of the server model (Lemmas/Keys.lean) and the reference responder
  `RT.respond` (Lemmas/Respond.lean) are both expressed in them.
-/
namespace Rough.Lemmas.Shape
open Rough Rough.Spec Rough.Spec.RT Rough.ServerSpec

theorem aligned_mk {fs : List (Tag × Bytes)} : (⟨fs⟩ : Msg).Aligned ↔ ∀ f ∈ fs, f.2.length % 4 = 0 := by
  simp only [Msg.Aligned, Msg.values, List.mem_map]
  exact ⟨fun h f hf => h _ ⟨f, hf, rfl⟩, fun h v ⟨f, hf, e⟩ => e ▸ h f hf⟩

theorem decode_encode_mk (fs : List (Tag × Bytes)) (hs : (fs.map (·.1)).Pairwise (fun a b => a.idx < b.idx))
    (ha : ∀ f ∈ fs, f.2.length % 4 = 0) (hsz : encodedSize ⟨fs⟩ < 2 ^ 32) :
    decode (encode ⟨fs⟩) = some ⟨fs⟩ :=
  spec_decode_encode _ hs (aligned_mk.mpr ha) hsz

def deleM (pk mint maxt : Bytes) : Msg := ⟨[(Tag.PUBK, pk), (Tag.MINT, mint), (Tag.MAXT, maxt)]⟩
def certM (sig dele : Bytes) : Msg := ⟨[(Tag.SIG, sig), (Tag.DELE, dele)]⟩
def srepM (p : Proto) (radi midp root : Bytes) : Msg :=
  match p with
  | .classic => ⟨[(Tag.RADI, radi), (Tag.MIDP, midp), (Tag.ROOT, root)]⟩
  | .draft13 => ⟨[(Tag.VER, ver13), (Tag.RADI, radi), (Tag.MIDP, midp), (Tag.VERS, [0, 0, 0, 0] ++ ver13),
                  (Tag.ROOT, root)]⟩
/-- what `make_srep` returns: the signature and the signed bytes -/
def signedM (sig srep : Bytes) : Msg := ⟨[(Tag.SIG, sig), (Tag.SREP, srep)]⟩
def respM (sig nonce path srep cert indx : Bytes) : Msg :=
  ⟨[(Tag.SIG, sig), (Tag.NONC, nonce), (Tag.PATH, path), (Tag.SREP, srep), (Tag.CERT, cert), (Tag.INDX, indx)]⟩

/-- encoded size of an SREP less its RADI, MIDP and ROOT values: 8 bytes per field and, for draft 13, the 4 + 8 bytes
    of VER and VERS -/
def srepHdr : Proto → Nat
  | .classic => 24
  | .draft13 => 52

theorem srepHdr_le (p : Proto) : srepHdr p ≤ 52 := by cases p <;> decide

theorem deleM_size (pk mint maxt : Bytes) :
    encodedSize (deleM pk mint maxt) = 24 + pk.length + mint.length + maxt.length := by
  simp [deleM, encodedSize, Msg.values]; omega
theorem certM_size (sig dele : Bytes) : encodedSize (certM sig dele) = 16 + sig.length + dele.length := by
  simp [certM, encodedSize, Msg.values]; omega
theorem srepM_size (p : Proto) (radi midp root : Bytes) :
    encodedSize (srepM p radi midp root) = srepHdr p + radi.length + midp.length + root.length := by
  cases p <;> simp [srepM, srepHdr, encodedSize, Msg.values, ver13] <;> omega
theorem respM_size (sig nonce path srep cert indx : Bytes) :
    encodedSize (respM sig nonce path srep cert indx) =
      48 + sig.length + nonce.length + path.length + srep.length + cert.length + indx.length := by
  simp [respM, encodedSize, Msg.values]; omega

theorem deleM_decode (pk mint maxt : Bytes) (h1 : pk.length % 4 = 0) (h2 : mint.length % 4 = 0)
    (h3 : maxt.length % 4 = 0) (hsz : 24 + pk.length + mint.length + maxt.length < 2 ^ 32) :
    decode (encode (deleM pk mint maxt)) = some (deleM pk mint maxt) :=
  decode_encode_mk _ (by tags_sorted) (by simp [h1, h2, h3]) (by rw [← deleM, deleM_size]; exact hsz)

theorem certM_decode (sig dele : Bytes) (h1 : sig.length % 4 = 0) (h2 : dele.length % 4 = 0)
    (hsz : 16 + sig.length + dele.length < 2 ^ 32) :
    decode (encode (certM sig dele)) = some (certM sig dele) :=
  decode_encode_mk _ (by tags_sorted) (by simp [h1, h2]) (by rw [← certM, certM_size]; exact hsz)

theorem srepM_decode (p : Proto) (radi midp root : Bytes) (h1 : radi.length % 4 = 0) (h2 : midp.length % 4 = 0)
    (h3 : root.length % 4 = 0) (hsz : srepHdr p + radi.length + midp.length + root.length < 2 ^ 32) :
    decode (encode (srepM p radi midp root)) = some (srepM p radi midp root) := by
  rw [← srepM_size] at hsz
  cases p
  · exact decode_encode_mk _ (by tags_sorted) (by simp [h1, h2, h3]) hsz
  · exact decode_encode_mk _ (by tags_sorted) (by simp [h1, h2, h3, ver13]) hsz

theorem respM_decode (sig nonce path srep cert indx : Bytes)
    (h1 : sig.length % 4 = 0) (h2 : nonce.length % 4 = 0) (h3 : path.length % 4 = 0)
    (h4 : srep.length % 4 = 0) (h5 : cert.length % 4 = 0) (h6 : indx.length % 4 = 0)
    (hsz : 48 + sig.length + nonce.length + path.length + srep.length + cert.length + indx.length < 2 ^ 32) :
    decode (encode (respM sig nonce path srep cert indx)) = some (respM sig nonce path srep cert indx) :=
  decode_encode_mk _ (by tags_sorted) (by simp [h1, h2, h3, h4, h5, h6]) (by rw [← respM, respM_size]; exact hsz)

theorem srepM_gets (p : Proto) (radi midp root : Bytes) :
    (srepM p radi midp root).get Tag.RADI = some radi ∧ (srepM p radi midp root).get Tag.MIDP = some midp ∧
    (srepM p radi midp root).get Tag.ROOT = some root := by
  cases p <;> exact ⟨rfl, rfl, rfl⟩

/-! ### the model's constants are the specification's literals -/

theorem zeros8 : zeros 8 = le64 0 := by decide
theorem ones8 : List.replicate 8 (0xff : UInt8) = le64 (2 ^ 64 - 1) := by decide

theorem srepPrefix_ctx (v : Version) : v.srepPrefix = srepCtx (protoOfVer v) := by cases v <;> rfl
theorem delePrefix_ctx (v : Version) : v.delePrefix = deleCtx (protoOfVer v) := by cases v <;> rfl
theorem mcfg_proto (E : Env) (v : Version) : E.mcfg v = RT.mcfg E.H (protoOfVer v) := by cases v <;> rfl

end Rough.Lemmas.Shape
