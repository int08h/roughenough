import Rough.Lemmas.Resp
/-
  The reference verifier through the parsed response: `RT.verifyResponse … = .ok res` exactly when the
  frame strips, the body parses, and the parsed response passes `Resp.Core` and `Resp.Strict`
  (`verifyResponse_ok`, `verifyResponse_of`).
-/
namespace Rough.Lemmas.RT
open Rough Rough.Spec Rough.Spec.RT

/-- the frame check of the reference verifier -/
def vframe (p : Proto) (response : Bytes) : Option Bytes :=
  match p with
  | .classic => some response
  | .draft13 => unframe response

namespace Resp

/-- the NONC echo: must match when present, and be present for draft-13 -/
def EchoOK (p : Proto) (nonce : Bytes) : Option Bytes → Prop
  | some n => n = nonce
  | none => p ≠ .draft13

/-- the draft-13 version fields of SREP -/
def VersOK (p : Proto) (srep : Msg) : Prop :=
  p = .draft13 → srep.get Tag.VER = some ver13 ∧
    ∃ vs, srep.get Tag.VERS = some vs ∧ (versionList vs).contains ver13 = true ∧ vs.length % 4 = 0

/-- what only the reference verifier insists on: exact widths, a PATH no deeper than 32 with INDX
    inside it, the NONC echo, the draft-13 version fields -/
structure Strict (p : Proto) (nonce : Bytes) (f : Resp) : Prop where
  echo : EchoOK p nonce (f.msg.get Tag.NONC)
  indx4 : f.indxB.length = 4
  mint8 : f.mint.length = 8
  maxt8 : f.maxt.length = 8
  radi4 : f.radi.length = 4
  midp8 : f.midp.length = 8
  rootN : f.root.length = nodeWidth p
  vers : VersOK p f.srep
  depth : (chunks (nodeWidth p) f.path).length ≤ 32
  index : u32le f.indxB < 2 ^ (chunks (nodeWidth p) f.path).length

end Resp

/-! ### stages of the verifier's `Except` do-block

  One iff per kind of step.  They are applied to the do-block as elaborated, join points and all:
  `obtain ⟨x, hx, h⟩ := stage.mp h` (or `stage.mpr ⟨x, hx, ?_⟩`) only has to unify the stage with the
  head of `h` up to zeta and beta, and leaves the tail alone.  Normalising the block first is what
  must be avoided: every `if bad then throw e` is a join point `if bad then throw e >>= jp else jp ()`,
  and `simp` inlines `jp` into both branches, doubling the tail at each of the checks.
  The `Option`s are at their concrete types (`Option Msg`, `Option Bytes`): with a type variable the
  `match` of the stage does not unify with the one in `verifyResponse`. -/
section stages
variable {β γ : Type} {b : β}

theorem throw_bind_ne_ok {e : String} {j : γ → Except String β} : (throw e >>= j) ≠ .ok b := fun h => nomatch h

theorem ite_throw_ok {c : Prop} [Decidable c] {e : String} {j : Unit → Except String β} {k : Except String β} :
    (if c then throw e >>= j else k) = .ok b ↔ ¬ c ∧ k = .ok b :=
  ite_eq_iff_of_ne throw_bind_ne_ok

theorem decode_or_throw_ok {o : Option Msg} {e : String} {j : Msg → Except String β} :
    (match o with | some c => pure c >>= j | none => throw e >>= j) = .ok b ↔ ∃ c, o = some c ∧ j c = .ok b := by
  cases o <;> simp [throw_bind_ne_ok]

theorem get_bind_ok {m : Msg} {t : Tag} {e : String} {k : Bytes → Except String β} :
    ((match m.get t with | some v => pure v | none => throw e) >>= k) = .ok b ↔ ∃ v, m.get t = some v ∧ k v = .ok b := by
  cases m.get t <;> simp [throw_bind_ne_ok]

theorem frame_ok {p : Proto} {response : Bytes} {e : String} {K : Bytes → Except String β} :
    (match p with
      | .classic => pure response >>= K
      | .draft13 => match unframe response with | some b => pure b >>= K | none => throw e >>= K) = .ok b ↔
    ∃ body, vframe p response = some body ∧ K body = .ok b := by
  cases p
  · simp [vframe]
  · simp only [vframe]
    cases unframe response <;> simp [throw_bind_ne_ok]

theorem echo_ok {p : Proto} {nonce : Bytes} {o : Option Bytes} {e e' : String} {j : Unit → Except String β} :
    (match o with
      | some n => if n ≠ nonce then throw e >>= j else j ()
      | none => if p = Proto.draft13 then throw e' >>= j else j ()) = .ok b ↔
    Resp.EchoOK p nonce o ∧ j () = .ok b := by
  cases o <;> simp only [ite_throw_ok, Resp.EchoOK, ne_eq, Decidable.not_not]

theorem vers_ok {p : Proto} {srep : Msg} {e₁ e₂ e₃ e₄ : String} {j : Unit → Except String β} :
    (if p = Proto.draft13 then
        (match srep.get Tag.VER with | some v => pure v | none => throw e₁) >>= fun v =>
        (match srep.get Tag.VERS with | some v => pure v | none => throw e₂) >>= fun vs =>
        if v ≠ ver13 then throw e₃ >>= fun r =>
            if ¬ (versionList vs).contains ver13 = true ∨ vs.length % 4 ≠ 0 then throw e₄ >>= j else j r
        else if ¬ (versionList vs).contains ver13 = true ∨ vs.length % 4 ≠ 0 then throw e₄ >>= j else j ()
      else j ()) = .ok b ↔
    Resp.VersOK p srep ∧ j () = .ok b := by
  by_cases hp : p = .draft13
  · simp only [hp, if_true, get_bind_ok, ite_throw_ok, Resp.VersOK, true_imp_iff, not_or, ne_eq, Decidable.not_not]
    constructor
    · rintro ⟨v, hv, vs, hvs, rfl, ⟨h1, h2⟩, hj⟩
      exact ⟨⟨hv, vs, hvs, h1, h2⟩, hj⟩
    · rintro ⟨⟨hv, vs, hvs, h1, h2⟩, hj⟩
      exact ⟨_, hv, vs, hvs, rfl, ⟨h1, h2⟩, hj⟩
  · simp only [hp, if_false, Resp.VersOK, false_imp_iff, true_and]

end stages

theorem verifyResponse_ok {S : SigScheme} {H : Bytes → Bytes} {p : Proto} {ltpk request nonce response : Bytes}
    {res : Nat × Nat} (h : verifyResponse S H p ltpk request nonce response = .ok res) :
    ∃ body, vframe p response = some body ∧ ∃ f, Resp.parse body = some f ∧
      f.Core S H p ltpk (Resp.leafFor p nonce request) ∧ f.Strict p nonce ∧ f.result = res := by
  unfold verifyResponse at h
  obtain ⟨body, hb, h⟩ := frame_ok.mp h
  obtain ⟨m, hm, h⟩ := decode_or_throw_ok.mp h
  obtain ⟨sig, g1, h⟩ := get_bind_ok.mp h
  obtain ⟨path, g2, h⟩ := get_bind_ok.mp h
  obtain ⟨srepB, g3, h⟩ := get_bind_ok.mp h
  obtain ⟨certB, g4, h⟩ := get_bind_ok.mp h
  obtain ⟨indxB, g5, h⟩ := get_bind_ok.mp h
  obtain ⟨hecho, h⟩ := echo_ok.mp h
  obtain ⟨l1, h⟩ := ite_throw_ok.mp h
  obtain ⟨l2, h⟩ := ite_throw_ok.mp h
  obtain ⟨cert, hc, h⟩ := decode_or_throw_ok.mp h
  obtain ⟨certSig, g6, h⟩ := get_bind_ok.mp h
  obtain ⟨deleB, g7, h⟩ := get_bind_ok.mp h
  obtain ⟨l3, h⟩ := ite_throw_ok.mp h
  obtain ⟨dele, hd, h⟩ := decode_or_throw_ok.mp h
  obtain ⟨pubk, g8, h⟩ := get_bind_ok.mp h
  obtain ⟨mint, g9, h⟩ := get_bind_ok.mp h
  obtain ⟨maxt, g10, h⟩ := get_bind_ok.mp h
  obtain ⟨l4, h⟩ := ite_throw_ok.mp h
  obtain ⟨v1, h⟩ := ite_throw_ok.mp h
  obtain ⟨v2, h⟩ := ite_throw_ok.mp h
  obtain ⟨srep, hs, h⟩ := decode_or_throw_ok.mp h
  obtain ⟨radi, g11, h⟩ := get_bind_ok.mp h
  obtain ⟨midp, g12, h⟩ := get_bind_ok.mp h
  obtain ⟨root, g13, h⟩ := get_bind_ok.mp h
  obtain ⟨l5, h⟩ := ite_throw_ok.mp h
  obtain ⟨l6, h⟩ := ite_throw_ok.mp h
  obtain ⟨hvers, h⟩ := vers_ok.mp h
  obtain ⟨w, h⟩ := ite_throw_ok.mp h
  obtain ⟨pm, h⟩ := ite_throw_ok.mp h
  obtain ⟨dp, h⟩ := ite_throw_ok.mp h
  obtain ⟨ix, h⟩ := ite_throw_ok.mp h
  obtain ⟨cl, h⟩ := ite_throw_ok.mp h
  cases h
  simp only [ne_eq, not_or, Decidable.not_not, Nat.not_lt, Nat.not_le, gt_iff_lt, ge_iff_le, Bool.not_eq_true,
    Bool.not_eq_false] at l1 l2 l3 l4 l5 l6 v1 v2 w pm dp ix cl
  exact ⟨body, hb, ⟨m, cert, dele, srep, sig, path, srepB, certB, indxB, certSig, deleB, pubk, mint, maxt, midp, radi, root⟩,
    Resp.parse_eq_some.mpr ⟨hm, g1, g2, g3, g4, g5, hc, g6, g7, hd, g8, g9, g10, hs, g12, g11, g13⟩,
    { midp8 := Nat.le_of_eq l5.2.symm, radi4 := Nat.le_of_eq l5.1.symm, mint8 := Nat.le_of_eq l4.2.1.symm,
      maxt8 := Nat.le_of_eq l4.2.2.symm, indx4 := Nat.le_of_eq l2.symm, certSig64 := l3, sig64 := l1, pubk32 := l4.1,
      deleOK := v1, srepOK := v2, lo := w.1, hi := w.2, pathMod := pm, climb := cl },
    { echo := hecho, indx4 := l2, mint8 := l4.2.1, maxt8 := l4.2.2, radi4 := l5.1, midp8 := l5.2, rootN := l6,
      vers := hvers, depth := dp, index := ix }, rfl⟩

theorem verifyResponse_of {S : SigScheme} {H : Bytes → Bytes} {p : Proto} {ltpk request nonce response body : Bytes}
    {f : Resp} (hb : vframe p response = some body) (hf : Resp.parse body = some f)
    (c : f.Core S H p ltpk (Resp.leafFor p nonce request)) (s : f.Strict p nonce) :
    verifyResponse S H p ltpk request nonce response = .ok f.result := by
  obtain ⟨hm, r⟩ := Resp.parse_eq_some.mp hf
  have := c.sig64; have := c.certSig64; have := c.pubk32; have := c.pathMod
  have := s.indx4; have := s.mint8; have := s.maxt8; have := s.radi4; have := s.midp8; have := s.rootN
  have := s.depth; have := s.index
  unfold verifyResponse
  exact frame_ok.mpr ⟨body, hb, decode_or_throw_ok.mpr ⟨_, hm, get_bind_ok.mpr ⟨_, r.sig, get_bind_ok.mpr ⟨_, r.path,
    get_bind_ok.mpr ⟨_, r.srepB, get_bind_ok.mpr ⟨_, r.certB, get_bind_ok.mpr ⟨_, r.indxB, echo_ok.mpr ⟨s.echo,
    ite_throw_ok.mpr ⟨by omega, ite_throw_ok.mpr ⟨by omega, decode_or_throw_ok.mpr ⟨_, r.cert,
    get_bind_ok.mpr ⟨_, r.certSig, get_bind_ok.mpr ⟨_, r.deleB, ite_throw_ok.mpr ⟨by omega,
    decode_or_throw_ok.mpr ⟨_, r.dele, get_bind_ok.mpr ⟨_, r.pubk, get_bind_ok.mpr ⟨_, r.mint, get_bind_ok.mpr ⟨_, r.maxt,
    ite_throw_ok.mpr ⟨by omega, ite_throw_ok.mpr ⟨not_not_intro c.deleOK, ite_throw_ok.mpr ⟨not_not_intro c.srepOK,
    decode_or_throw_ok.mpr ⟨_, r.srep, get_bind_ok.mpr ⟨_, r.radi, get_bind_ok.mpr ⟨_, r.midp, get_bind_ok.mpr ⟨_, r.root,
    ite_throw_ok.mpr ⟨by omega, ite_throw_ok.mpr ⟨by omega, vers_ok.mpr ⟨s.vers,
    ite_throw_ok.mpr ⟨not_not_intro ⟨c.lo, c.hi⟩, ite_throw_ok.mpr ⟨by omega, ite_throw_ok.mpr ⟨by omega,
    ite_throw_ok.mpr ⟨by omega, ite_throw_ok.mpr ⟨not_not_intro c.climb, rfl⟩⟩⟩⟩⟩⟩⟩⟩⟩⟩⟩⟩⟩⟩⟩⟩⟩⟩⟩⟩⟩⟩⟩⟩⟩⟩⟩⟩⟩⟩⟩⟩⟩

theorem aframe_of_vframe {p : Proto} {dg body : Bytes} (h : vframe p dg = some body) :
    aframe p dg = some body ∧ (p = .draft13 → 12 ≤ dg.length ∧ u32le (dg.drop 8) = dg.length - 12) := by
  cases p
  · exact ⟨h, nofun⟩
  · obtain ⟨h12, hm, hl, hb⟩ := SpecRT.unframe_eq_some.mp h
    exact ⟨(if_pos ⟨h12, hm⟩).trans (congrArg some hb), fun _ => ⟨h12, hl⟩⟩

end Rough.Lemmas.RT
