import Rough.Model.Tag
import Rough.Model.Version
import Rough.Model.Sign
import Rough.Lemmas.Res
/-
  Runtime library for the Lean code that `checklib/rs2lean` generates from /repo's Rust sources
  (`Rough/Generated/Src/*.lean`).  Generated functions live in the `Res` monad (ok | err | panic site);
  every Rust construct that can panic is a call into this file that returns `Res.panic` with the site
  `"<file>:<function>:<construct>#<k>"` (`"message.rs:multi_tag_message:sub#1"`: the k-th such construct of the function).

  Loops are not Lean `for`/`while` (whose elaborated form is awkward to reason about) but the combinators
  `forList` / `forListR` / `whileFuel` below over an explicit state tuple; their unfolding lemmas follow them.
-/
namespace Rough

instance : Monad Res where
  pure := .ok
  bind := Res.bind

@[simp] theorem Res.pure_eq {α} (a : α) : (pure a : Res α) = .ok a := rfl
@[simp] theorem Res.bind_eq {α β} (r : Res α) (f : α → Res β) : (r >>= f) = r.bind f := rfl

instance : LawfulMonad Res := LawfulMonad.mk' Res
  (id_map := fun x => by cases x <;> rfl)
  (pure_bind := fun _ _ => rfl)
  (bind_assoc := fun x _ _ => by cases x <;> rfl)

instance : Inhabited Signer := ⟨⟨[], []⟩⟩
instance : Inhabited Verifier := ⟨⟨[], []⟩⟩

namespace Rs

/-- outcome of one loop iteration (no value-`return` inside the loop) -/
inductive Step (σ : Type) where
  | next (s : σ)
  | brk (s : σ)

/-- outcome of one loop iteration / of a whole loop when the body may `return v` from the function -/
inductive Flow (σ ρ : Type) where
  | next (s : σ)
  | brk (s : σ)
  | ret (r : ρ)

/-- `for x in xs { body }` over the state tuple `s` -/
def forList {α σ : Type} : List α → σ → (α → σ → Res (Step σ)) → Res σ
  | [], s, _ => .ok s
  | x :: xs, s, f =>
    match f x s with
    | .ok (.next s') => forList xs s' f
    | .ok (.brk s') => .ok s'
    | .err => .err
    | .panic p => .panic p

/-- `for` whose body may return from the enclosing function: result is `.next s` (loop finished or broke) or `.ret r` -/
def forListR {α σ ρ : Type} : List α → σ → (α → σ → Res (Flow σ ρ)) → Res (Flow σ ρ)
  | [], s, _ => .ok (.next s)
  | x :: xs, s, f =>
    match f x s with
    | .ok (.next s') => forListR xs s' f
    | .ok (.brk s') => .ok (.next s')
    | .ok (.ret r) => .ok (.ret r)
    | .err => .err
    | .panic p => .panic p

/-- `while cond { body }` with an explicit bound on the number of iterations (given per loop in the translator's
    spec; the bridge theorems show it is never exhausted). -/
def whileFuel {σ : Type} : Nat → σ → (σ → Res Bool) → (σ → Res (Step σ)) → Res σ
  | 0, s, c, _ =>
    match c s with
    | .ok false => .ok s
    | .ok true => .panic "rs2lean: loop fuel exhausted"
    | .err => .err
    | .panic p => .panic p
  | n + 1, s, c, f =>
    match c s with
    | .ok false => .ok s
    | .ok true =>
      (match f s with
       | .ok (.next s') => whileFuel n s' c f
       | .ok (.brk s') => .ok s'
       | .err => .err
       | .panic p => .panic p)
    | .err => .err
    | .panic p => .panic p

@[simp] theorem forList_nil {α σ} (s : σ) (f : α → σ → Res (Step σ)) : forList [] s f = .ok s := rfl
theorem forList_cons {α σ} (x : α) (xs : List α) (s : σ) (f : α → σ → Res (Step σ)) :
    forList (x :: xs) s f =
      match f x s with
      | .ok (.next s') => forList xs s' f
      | .ok (.brk s') => .ok s'
      | .err => .err
      | .panic p => .panic p := rfl
@[simp] theorem forListR_nil {α σ ρ} (s : σ) (f : α → σ → Res (Flow σ ρ)) : forListR [] s f = .ok (.next s) := rfl
theorem forListR_cons {α σ ρ} (x : α) (xs : List α) (s : σ) (f : α → σ → Res (Flow σ ρ)) :
    forListR (x :: xs) s f =
      match f x s with
      | .ok (.next s') => forListR xs s' f
      | .ok (.brk s') => .ok (.next s')
      | .ok (.ret r) => .ok (.ret r)
      | .err => .err
      | .panic p => .panic p := rfl

/-- `forList_cons` with the step as a `bind`: the form in which `Res.Sim.bind_map` / `Res.Rel.bind` take a loop one
    step further -/
theorem forList_cons_bind {α σ} (x : α) (xs : List α) (s : σ) (f : α → σ → Res (Step σ)) :
    forList (x :: xs) s f = (f x s).bind fun st => match st with
      | .next s' => forList xs s' f
      | .brk s' => .ok s' := by
  rw [forList_cons]
  cases f x s with
  | ok st => cases st <;> rfl
  | err => rfl
  | panic p => rfl
theorem forListR_cons_bind {α σ ρ} (x : α) (xs : List α) (s : σ) (f : α → σ → Res (Flow σ ρ)) :
    forListR (x :: xs) s f = (f x s).bind fun st => match st with
      | .next s' => forListR xs s' f
      | .brk s' => .ok (.next s')
      | .ret r => .ok (.ret r) := by
  rw [forListR_cons]
  cases f x s with
  | ok st => cases st <;> rfl
  | err => rfl
  | panic p => rfl

theorem forList_pure {α σ} (f : α → σ → σ) (xs : List α) (s : σ) :
    forList xs s (fun x s => Res.ok (Step.next (f x s))) = .ok (xs.foldl (fun s x => f x s) s) := by
  induction xs generalizing s with
  | nil => rfl
  | cons x xs ih => exact ih _

theorem whileFuel_zero_bind {σ} (s : σ) (c : σ → Res Bool) (f : σ → Res (Step σ)) :
    whileFuel 0 s c f = (c s).bind fun b => if b then .panic "rs2lean: loop fuel exhausted" else .ok s := by
  rw [whileFuel]
  cases c s with
  | ok b => cases b <;> rfl
  | err => rfl
  | panic p => rfl
theorem whileFuel_succ_bind {σ} (n : Nat) (s : σ) (c : σ → Res Bool) (f : σ → Res (Step σ)) :
    whileFuel (n + 1) s c f = (c s).bind fun b =>
      if b then (f s).bind fun st => match st with
        | .next s' => whileFuel n s' c f
        | .brk s' => .ok s'
      else .ok s := by
  rw [whileFuel]
  cases c s with
  | ok b =>
    cases b
    · rfl
    · cases f s with
      | ok st => cases st <;> rfl
      | err => rfl
      | panic p => rfl
  | err => rfl
  | panic p => rfl

theorem forList_eq_of_step {α σ} {body : α → σ → Res (Step σ)} {g : List α → σ → Res σ}
    (hnil : ∀ s, g [] s = .ok s)
    (hcons : ∀ x xs s, g (x :: xs) s =
      match body x s with
      | .ok (.next s') => g xs s'
      | .ok (.brk s') => .ok s'
      | .err => .err
      | .panic p => .panic p) :
    ∀ xs s, forList xs s body = g xs s := by
  intro xs
  induction xs with
  | nil => intro s; simp [hnil]
  | cons x xs ih =>
    intro s
    rw [forList_cons, hcons]
    cases h : body x s with
    | ok st => cases st <;> simp [ih]
    | err => rfl
    | panic p => rfl

/-! ### checked operations (dev profile: overflow checks on) -/

/-- `a - b` on an unsigned integer -/
def sub (a b : Nat) (site : String) : Res Nat := if b ≤ a then .ok (a - b) else .panic site
/-- `a / b` -/
def div (a b : Nat) (site : String) : Res Nat := if b = 0 then .panic site else .ok (a / b)
/-- `a % b` -/
def rem (a b : Nat) (site : String) : Res Nat := if b = 0 then .panic site else .ok (a % b)
/-- `v[i]` -/
def idx {α} (l : List α) (i : Nat) (site : String) : Res α :=
  match l[i]? with
  | some a => .ok a
  | none => .panic site
/-- `v[i] = x` -/
def setIdx {α} (l : List α) (i : Nat) (x : α) (site : String) : Res (List α) :=
  if i < l.length then .ok (l.set i x) else .panic site
/-- `v[s..e]` -/
def slice {α} (l : List α) (s e : Nat) (site : String) : Res (List α) :=
  if s ≤ e ∧ e ≤ l.length then .ok ((l.drop s).take (e - s)) else .panic site
/-- `v[s..]` -/
def sliceFrom {α} (l : List α) (s : Nat) (site : String) : Res (List α) :=
  if s ≤ l.length then .ok (l.drop s) else .panic site
/-- `v[..e]` -/
def sliceTo {α} (l : List α) (e : Nat) (site : String) : Res (List α) :=
  if e ≤ l.length then .ok (l.take e) else .panic site
/-- `assert!(c)` -/
def assert (c : Bool) (site : String) : Res Unit := if c then .ok () else .panic site

/-- `.unwrap()` / `.expect(..)` on an `Option` -/
def unwrapO {α} (o : Option α) (site : String) : Res α :=
  match o with
  | some a => .ok a
  | none => .panic site
/-- `.unwrap()` / `.expect(..)` on a `Result` (a `Res` computation): `Err` becomes a panic -/
def unwrapR {α} (r : Res α) (site : String) : Res α :=
  match r with
  | .ok a => .ok a
  | .err => .panic site
  | .panic p => .panic p
/-- `.is_err()` on a `Result` -/
def isErr {α} (r : Res α) : Res Bool :=
  match r with
  | .ok _ => .ok false
  | .err => .ok true
  | .panic p => .panic p
/-- `.is_ok()` on a `Result` -/
def isOk {α} (r : Res α) : Res Bool :=
  match r with
  | .ok _ => .ok true
  | .err => .ok false
  | .panic p => .panic p
/-- `.ok()` on a `Result` -/
def okOpt {α} (r : Res α) : Res (Option α) :=
  match r with
  | .ok a => .ok (some a)
  | .err => .ok none
  | .panic p => .panic p
/-- `Option` as a `Result` whose error is collapsed -/
def ofOpt {α} (o : Option α) : Res α :=
  match o with
  | some a => .ok a
  | none => .err

@[simp] theorem unwrapO_some {α} (a : α) (site : String) : unwrapO (some a) site = .ok a := rfl
@[simp] theorem unwrapO_none {α} (site : String) : unwrapO (none : Option α) site = .panic site := rfl
@[simp] theorem unwrapR_ok {α} (a : α) (site : String) : unwrapR (.ok a) site = .ok a := rfl
@[simp] theorem unwrapR_err {α} (site : String) : unwrapR (.err : Res α) site = .panic site := rfl
@[simp] theorem ofOpt_some {α} (a : α) : ofOpt (some a) = .ok a := rfl
@[simp] theorem ofOpt_none {α} : ofOpt (none : Option α) = .err := rfl
@[simp] theorem assert_true (site : String) : assert true site = .ok () := rfl
@[simp] theorem assert_false (site : String) : assert false site = .panic site := rfl

theorem sub_ok {a b : Nat} (h : b ≤ a) (site : String) : sub a b site = .ok (a - b) := if_pos h
theorem idx_ok {α} {l : List α} {i : Nat} {a : α} (h : l[i]? = some a) (site : String) : idx l i site = .ok a := by
  rw [idx, h]
theorem setIdx_ok {α} {l : List α} {i : Nat} {a : α} (h : l[i]? = some a) (x : α) (site : String) :
    setIdx l i x site = .ok (l.set i x) :=
  if_pos (List.getElem?_eq_some_iff.mp h).1
theorem slice_ok {α} {l : List α} {s e : Nat} (hs : s ≤ e) (he : e ≤ l.length) (site : String) :
    slice l s e site = .ok ((l.drop s).take (e - s)) := if_pos ⟨hs, he⟩
theorem sliceFrom_ok {α} {l : List α} {s : Nat} (h : s ≤ l.length) (site : String) :
    sliceFrom l s site = .ok (l.drop s) := if_pos h
theorem sliceTo_ok {α} {l : List α} {e : Nat} (h : e ≤ l.length) (site : String) :
    sliceTo l e site = .ok (l.take e) := if_pos h

theorem toOption_unwrapO {α} (o : Option α) (site : String) : (unwrapO o site).toOption = o := by cases o <;> rfl
theorem toOption_ofOpt {α} (o : Option α) : (ofOpt o).toOption = o := by cases o <;> rfl
theorem toOption_unwrapR {α} (r : Res α) (site : String) : (unwrapR r site).toOption = r.toOption := by cases r <;> rfl

/-- `Vec::with_capacity(n)`: the capacity is not observable -/
def withCapacity {α} (_n : Nat) : List α := []
/-- `slice.chunks_exact(k)`: the complete pieces of length `k` (a shorter remainder is dropped) -/
def chunksExact {α} (k : Nat) (l : List α) : List (List α) := (List.range (l.length / k)).map fun i => (l.drop (i * k)).take k
/-- `xs.iter().enumerate()` -/
def enumerate {α} (l : List α) : List (Nat × α) := (List.range l.length).zip l
theorem enumerate_eq_range' {α} (l : List α) : enumerate l = (List.range' 0 l.length).zip l := by
  rw [enumerate, List.range_eq_range']
/-- `[x; n]` -/
def rep {α} (x : α) (n : Nat) : List α := List.replicate n x
/-- `(lo..hi)` -/
def range (lo hi : Nat) : List Nat := (List.range (hi - lo)).map (· + lo)

/-- `map[&k]` on a `HashMap` (kept as the association list it was collected from): panics when the key is absent -/
def mapIdx {κ α} [BEq κ] (m : List (κ × α)) (k : κ) (site : String) : Res α :=
  match m.find? (fun e => e.1 == k) with
  | some e => .ok e.2
  | none => .panic site
/-- `map.entry(k).or_insert_with(..)`: the entry exists afterwards (appended with the default when absent) -/
def mapEnsure {κ α} [BEq κ] (m : List (κ × α)) (k : κ) (d : α) : List (κ × α) :=
  if m.any (fun e => e.1 == k) then m else m ++ [(k, d)]
/-- update through the `&mut` reference an entry call returned -/
def mapModify {κ α} [BEq κ] (m : List (κ × α)) (k : κ) (f : α → α) : List (κ × α) :=
  m.map fun e => if e.1 == k then (e.1, f e.2) else e
/-- `opt.map(|x| f(x))` with a closure that calls translated (monadic) code -/
def optMapM {α β} (o : Option α) (f : α → Res β) : Res (Option β) :=
  match o with
  | some a => (f a).bind fun b => .ok (some b)
  | none => .ok none
/-- byteorder `read_u64::<LittleEndian>()` on a temporary `&[u8]`: `Err(UnexpectedEof)` when shorter than 8 bytes -/
def sliceReadU64 (b : Bytes) : Res Nat := if b.length < 8 then .err else .ok (leVal (b.take 8))
def sliceReadU32 (b : Bytes) : Res Nat := if b.length < 4 then .err else .ok (leVal (b.take 4))
def sliceReadU16 (b : Bytes) : Res Nat := if b.length < 2 then .err else .ok (leVal (b.take 2))

/-- `<&[T; N]>::try_from(slice)` / `slice.try_into()`: `Err` unless the slice has exactly `n` elements -/
def tryIntoArray {α} (l : List α) (n : Nat) : Res (List α) := if l.length = n then .ok l else .err
theorem tryIntoArray_ok {α} {l : List α} {n : Nat} (h : l.length = n) : tryIntoArray l n = .ok l := if_pos h
theorem tryIntoArray_err {α} {l : List α} {n : Nat} (h : l.length ≠ n) : tryIntoArray l n = .err := if_neg h
/-- byteorder write into a fixed-size `&mut [u8]`: overwrites the prefix; `Err(WriteZero)` when it does not fit -/
def sliceWrite (dst data : Bytes) : Res Bytes :=
  if dst.length < data.length then .err else .ok (data ++ dst.drop data.length)
theorem sliceWrite_full {dst data : Bytes} (h : dst.length = data.length) : sliceWrite dst data = .ok data := by
  rw [sliceWrite, if_neg (by omega), List.drop_eq_nil_of_le (by omega), List.append_nil]
/-- `u64` addition / multiplication with overflow checks (dev profile) -/
def addU64 (a b : Nat) (site : String) : Res Nat := if a + b ≥ 2 ^ 64 then .panic site else .ok (a + b)
def mulU64 (a b : Nat) (site : String) : Res Nat := if a * b ≥ 2 ^ 64 then .panic site else .ok (a * b)
/-- `s.as_bytes()` of a `&str` -/
def strBytes (s : String) : Bytes := s.toUTF8.toList

/-- a `SystemTime` at or after the Unix epoch / the `Duration` since the epoch: whole seconds and nanoseconds -/
structure Time where
  secs : Nat
  nanos : Nat
  deriving Repr, DecidableEq, Inhabited
/-- `now.duration_since(UNIX_EPOCH)`: `Ok` for every clock reading not before the epoch (the only ones modelled) -/
def durationSinceEpoch (t : Time) : Res Time := .ok t
@[simp] theorem durationSinceEpoch_eq (t : Time) : durationSinceEpoch t = .ok t := rfl

/-! ### std::io::Cursor over a byte slice -/
structure Cursor where
  data : Bytes
  pos : Nat
  deriving Repr, DecidableEq

namespace Cursor
def new (b : Bytes) : Cursor := ⟨b, 0⟩
def remaining (c : Cursor) : Bytes := c.data.drop c.pos
/-- `read_exact` of `n` bytes: `Err(UnexpectedEof)` when fewer remain -/
def readExact (c : Cursor) (n : Nat) : Res (Bytes × Cursor) :=
  if c.remaining.length < n then .err else .ok (c.remaining.take n, ⟨c.data, c.pos + n⟩)
def readU32 (c : Cursor) : Res (Nat × Cursor) := (c.readExact 4).bind fun (b, c') => .ok (leVal b, c')
def readU16 (c : Cursor) : Res (Nat × Cursor) := (c.readExact 2).bind fun (b, c') => .ok (leVal b, c')
def readU64 (c : Cursor) : Res (Nat × Cursor) := (c.readExact 8).bind fun (b, c') => .ok (leVal b, c')
/-- `read_to_end`: everything that remains -/
def readToEnd (c : Cursor) : Bytes × Cursor := (c.remaining, ⟨c.data, max c.pos c.data.length⟩)
def setPosition (c : Cursor) (p : Nat) : Cursor := ⟨c.data, p⟩

theorem readExact_eq (b : Bytes) (p n : Nat) :
    readExact ⟨b, p⟩ n = if (b.drop p).length < n then .err else .ok ((b.drop p).take n, ⟨b, p + n⟩) := rfl
theorem readExact_ok (b : Bytes) (p n : Nat) (h : ¬ (b.drop p).length < n) :
    readExact ⟨b, p⟩ n = .ok ((b.drop p).take n, ⟨b, p + n⟩) := if_neg h
theorem readExact_err (b : Bytes) (p n : Nat) (h : (b.drop p).length < n) : readExact ⟨b, p⟩ n = .err := if_pos h
theorem readU16_ok (b : Bytes) (p : Nat) (h : ¬ (b.drop p).length < 2) :
    readU16 ⟨b, p⟩ = .ok (rd16 (b.drop p), ⟨b, p + 2⟩) := by
  rw [readU16, readExact_ok b p 2 h, Res.bind_ok, rd16]
theorem readU32_eq (b : Bytes) (p : Nat) :
    readU32 ⟨b, p⟩ = if (b.drop p).length < 4 then .err else .ok (rd32 (b.drop p), ⟨b, p + 4⟩) := by
  rw [readU32, readExact_eq, rd32]
  split <;> rfl
theorem readU32_new (b : Bytes) (h : 4 ≤ b.length) : (new b).readU32 = .ok (rd32 b, ⟨b, 4⟩) := by
  rw [new, readU32_eq, List.drop_zero, if_neg (Nat.not_lt.mpr h)]
end Cursor

end Rs

/-- derived `PartialOrd` on `Tag` = declaration order -/
instance : LT Tag := ⟨fun a b => a.idx < b.idx⟩
instance : LE Tag := ⟨fun a b => a.idx ≤ b.idx⟩
instance (a b : Tag) : Decidable (a < b) := inferInstanceAs (Decidable (a.idx < b.idx))
instance (a b : Tag) : Decidable (a ≤ b) := inferInstanceAs (Decidable (a.idx ≤ b.idx))
theorem Tag.le_def (a b : Tag) : (a ≤ b) = (a.idx ≤ b.idx) := rfl
theorem Tag.lt_def (a b : Tag) : (a < b) = (a.idx < b.idx) := rfl

end Rough
